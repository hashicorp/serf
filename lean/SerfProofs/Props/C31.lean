/-
C31 — Configuration sources layer predictably without side effects.

`SerfModel.Gen.MergeConfig.table` is regenerated from `type Config` and the body of
`MergeConfig` (cmd/serf/command/agent/config.go) on every run: one row per field
with its kind and the ONE merge statement found for it.  `SerfModel.Config.merge`
interprets the table.  The theorems below are about `merge Gen.table`: instances of what
`Lemmas/Config.lean` and `Lemmas/ConfigHeap.lean` prove for every table, whose side conditions on the table are
discharged here by `decide`, so a changed `MergeConfig` that no longer layers a field as
documented no longer builds.

`WT t c` is the representation invariant of a Go `Config` (each field holds a value
of its declared type, maps have no duplicate keys); it restricts nothing.
-/
import SerfProofs.Lemmas.ConfigHeap
import SerfModel.Gen.MergeConfig
namespace SerfProofs.C31
open SerfModel SerfModel.Config SerfProofs.Config
open SerfModel.Gen.MergeConfig (table)

/-- The documented layering of one setting, given the earlier value `a`, the later value
`b` and the merged value `r`. -/
def Layered : Doc → FieldVal → FieldVal → FieldVal → Prop
  | .laterIfSet, a, b, r => r = if isSet b then b else a              -- later wins when it sets it
  | .laterIfPositive, a, b, r => r = if isPositive b then b else a    -- Protocol: "sets it" = is positive (TestMergeConfig)
  | .switch, a, b, r => ∃ x y, a = .bool x ∧ b = .bool y ∧ r = .bool (x || y)   -- on if either turns it on
  | .laterAlways, _, b, r => r = b                                    -- compression: from the later source
  | .concat, a, b, r => ∃ x y, a = .list x ∧ b = .list y ∧ r = .list (x ++ y)   -- concatenated in order
  | .combine, a, b, r => ∃ x y z, a = .tags x ∧ b = .tags y ∧ r = .tags z ∧      -- combined, later wins per key
      ∀ k, alookup (z.getD []) k = combinedLookup x y k

/-- Rule `r` on a field of kind `k` realises the documented layering `d` for ALL values. -/
def implementsDoc : Rule → Doc → Kind → Bool
  | .overrideIfNonEmpty, .laterIfSet, .str => true
  | .overrideIfNonZero, .laterIfSet, .int => true
  | .overrideIfNonZero, .laterIfSet, .dur => true
  | .overrideIfPositive, .laterIfPositive, .int => true
  | .orSwitch, .switch, .bool => true
  | .always, .laterAlways, _ => true
  | .concat, .concat, .list => true
  | .tagsFresh, .combine, .tags => true
  | .tagsInPlace, .combine, .tags => true      -- same VALUES (it fails C31_pure, not this)
  | .appendInPlace, .concat, .list => true     -- same VALUES (it fails C31_pure, not this)
  | _, _, _ => false

theorem over_eq_combined (x y : Option Tags) (k : String) :
    over (alookup (y.getD []) k) (alookup (x.getD []) k) = combinedLookup x y k := by
  unfold over combinedLookup
  cases alookup (y.getD []) k <;> rfl

theorem layered_of_combines {f : Option Tags → Option Tags → Option Tags} (hf : Combines f) {x y : Option Tags}
    (hx : tagsND x) (hy : tagsND y) : Layered .combine (.tags x) (.tags y) (.tags (f x y)) :=
  ⟨x, y, _, rfl, rfl, rfl, fun k => by rw [(hf x y hx hy).2.2, over_eq_combined]⟩

/-- one case per row of `implementsDoc` -/
theorem mergeVal_layered (r : Rule) (d : Doc) (k : Kind) (a b : FieldVal)
    (himp : implementsDoc r d k = true)
    (ha : hasKind k a = true) (hb : hasKind k b = true) :
    Layered d a b (mergeVal r a b) := by
  unfold implementsDoc at himp
  split at himp
  · obtain ⟨y, rfl⟩ := hasKind_inv hb      -- overrideIfNonEmpty on a string
    simp [Layered, mergeVal, isSet]
  · obtain ⟨y, rfl⟩ := hasKind_inv hb      -- overrideIfNonZero on an int
    simp [Layered, mergeVal, isSet]
  · obtain ⟨y, rfl⟩ := hasKind_inv hb      -- overrideIfNonZero on a duration
    simp [Layered, mergeVal, isSet]
  · obtain ⟨y, rfl⟩ := hasKind_inv hb      -- overrideIfPositive
    simp [Layered, mergeVal, isPositive]
  · obtain ⟨x, rfl⟩ := hasKind_inv ha; obtain ⟨y, rfl⟩ := hasKind_inv hb      -- orSwitch
    cases x <;> cases y <;> simp [Layered, mergeVal]
  · simp [Layered, mergeVal]                -- always
  · obtain ⟨x, rfl⟩ := hasKind_inv ha; obtain ⟨y, rfl⟩ := hasKind_inv hb      -- concat
    simp [Layered, mergeVal]
  · obtain ⟨x, rfl, hx⟩ := hasKind_inv ha; obtain ⟨y, rfl, hy⟩ := hasKind_inv hb      -- tagsFresh
    exact layered_of_combines combines_mergeTags hx hy
  · obtain ⟨x, rfl, hx⟩ := hasKind_inv ha; obtain ⟨y, rfl, hy⟩ := hasKind_inv hb      -- tagsInPlace
    exact layered_of_combines combines_mergeTagsInPlace hx hy
  · obtain ⟨x, rfl⟩ := hasKind_inv ha; obtain ⟨y, rfl⟩ := hasKind_inv hb      -- appendInPlace
    simp [Layered, mergeVal]
  · cases himp                              -- no other row

theorem merge_layered {t : List FieldSpec} (hnd : (names t).Nodup)
    (hl : ∀ fs ∈ t, ∀ d, docOf fs = some d → implementsDoc fs.rule d fs.kind = true)
    {a b : Config} (ha : WT t a) (hb : WT t b) :
    ∀ fs ∈ t, ∀ d, docOf fs = some d → Layered d (get a fs.name) (get b fs.name) (get (merge t a b) fs.name) := by
  intro fs hfs d hd
  rw [get_merge t hnd a b fs hfs]
  exact mergeVal_layered fs.rule d fs.kind _ _ (hl fs hfs d hd) (ha fs hfs) (hb fs hfs)

/-! ## Obligations on the regenerated table (evaluated by the kernel)

A `String` literal is dear to the kernel: it is encoded to UTF-8 bytes again whenever it is compared, and decoded
again by `toList`, which `endsWithRaw`, hence `docOf`, calls.  So every row is classified ONCE (`table_rows`), and
what the theorems need of `docOf` is read off that. -/

/-- field names are distinct (the record is well formed) -/
theorem C31_table_names_nodup : (names table).Nodup := by decide +kernel

/-- every statement of `MergeConfig` is applied to a field of a matching type -/
theorem C31_table_compat : ∀ fs ∈ table, compat fs.rule fs.kind = true := by decide

/-- A row is in order: a `*Raw` string (it has no documented layering) has its block in `DecodeConfig`'s
post-processing; the statement of a setting realises the setting's documented layering. -/
def rowOK (fs : FieldSpec) : Bool :=
  match docOf fs with
  | none => (Gen.MergeConfig.durationPairs.map (·.1)).contains fs.name
  | some d => implementsDoc fs.rule d fs.kind

theorem table_rows : ∀ fs ∈ table, rowOK fs = true := by decide +kernel

/-- every setting's statement realises its documented layering for ALL values (`Protocol`:
`if b.Protocol > 0`, the documented "later wins when positive") -/
theorem C31_table_layering : ∀ fs ∈ table, ∀ d, docOf fs = some d → implementsDoc fs.rule d fs.kind = true := by
  intro fs hfs d hd
  have := table_rows fs hfs
  rwa [rowOK, hd] at this

/-- **No setting is dropped**: every field with a user-facing meaning (everything but the
`*Raw` twins) has a merge statement.  (Dropping `ValidateNodeNames` /
`MsgpackUseNewTimeFormat`, repaired in 8994bad, is rule `none` here.)  No row of `implementsDoc` has rule `none`. -/
theorem C31_no_setting_dropped : ∀ fs ∈ table, (docOf fs).isSome = true → fs.rule ≠ .none := by
  intro fs hfs hd hr
  obtain ⟨d, hd⟩ := Option.isSome_iff_exists.mp hd
  have := C31_table_layering fs hfs d hd
  rw [hr] at this
  cases d <;> cases this

/-- no statement writes through a map or a slice of an input (the pre-repair tag merge is
`tagsInPlace`; `result.X = append(a.X, b.X...)` is `appendInPlace`) -/
theorem C31_table_no_inplace : ∀ fs ∈ table, writesInput fs.rule = false := by decide

/-- **Every setting** (every field but the `*Raw` twins) of the merged configuration follows its
documented layering rule, for all configurations: later source wins when it sets it (`Protocol`:
when positive — by design, see `docOf`), switches or-ed, compression from the later source, tags
combined with the later source winning, lists concatenated in order. -/
theorem C31_fieldwise (a b : Config) (ha : WT table a) (hb : WT table b) :
    ∀ fs ∈ table, ∀ d, docOf fs = some d →
      Layered d (get a fs.name) (get b fs.name) (get (merge table a b) fs.name) :=
  merge_layered C31_table_names_nodup C31_table_layering ha hb

def exA : Config := (zero table).map fun p => if p.1 == "Protocol" then (p.1, .int 5) else p
def exB : Config := (zero table).map fun p => if p.1 == "Protocol" then (p.1, .int (-1)) else p

theorem exA_wt : WT table exA :=
  WT_map_zero C31_table_names_nodup _ (fun p => by split <;> rfl) (by decide +kernel)

theorem exB_wt : WT table exB :=
  WT_map_zero C31_table_names_nodup _ (fun p => by split <;> rfl) (by decide +kernel)

/-- the by-design behaviour TestMergeConfig pins down: a later `Protocol = -1` does not
override an earlier `Protocol = 5` (and the well-typedness hypotheses are satisfiable) -/
example : WT table exA ∧ WT table exB ∧ get (merge table exA exB) "Protocol" = .int 5 ∧
    get (merge table exB exA) "Protocol" = .int 5 :=
  ⟨exA_wt, exB_wt, by decide +kernel, by decide +kernel⟩

/-- `MergeConfig(MergeConfig(a,b),c)` and `MergeConfig(a,MergeConfig(b,c))` agree on every
field (maps compared as maps). -/
theorem C31_assoc (a b c : Config) (ha : WT table a) (hb : WT table b) (hc : WT table c) :
    ∀ fs ∈ table, valEq (get (merge table (merge table a b) c) fs.name)
                        (get (merge table a (merge table b c)) fs.name) :=
  merge_assoc C31_table_names_nodup C31_table_compat ha hb hc

/-- merging well-typed configurations gives a well-typed configuration (so merges chain) -/
theorem C31_merge_wt (a b : Config) (ha : WT table a) (hb : WT table b) : WT table (merge table a b) :=
  merge_wt C31_table_names_nodup C31_table_compat ha hb

example : WT table exA ∧ WT table exB ∧ WT table (zero table) := ⟨exA_wt, exB_wt, WT_zero C31_table_names_nodup⟩

/-- The body of `ReadConfigPaths`, statement by statement, is: `result := new(Config)`; for each
path: open, stat (each failure returns no configuration); a plain file is decoded and merged
`MergeConfig(result, config)`; a directory is listed, SORTED, and each entry that is not a
directory and ends in `.json` is opened, decoded and merged `MergeConfig(result, config)` into
the SAME running result; finally `result` is returned.  Its variation points are the canonical
ones (`canonicalRead`), and `dirEnts.Less` orders names ascending. -/
theorem C31_read_shape :
    Gen.MergeConfig.readTokens =
      ["init", "paths[", "open", "fail", "stat", "fail",
         "file[", "decode", "close", "fail", "merge:result,config", "continue", "]",
         "readdir", "close", "fail", "sort",
         "each[", "skipdir", "suffix:.json", "join", "open", "fail", "decode", "close", "fail", "merge:result,config", "]",
       "]", "return"] ∧
    Gen.MergeConfig.readShape = canonicalRead := ⟨rfl, rfl⟩

/-- **the translated reader is the model** -/
theorem C31_reader_is_model (ps : List PathArg) :
    readPathsS Gen.MergeConfig.readShape table ps = readPaths table ps := by
  rw [C31_read_shape.2]; exact readPathsS_canonical table ps

/-- **Reading files in order equals merging them one by one.**  Reading a list of paths (files,
directories, unreadable paths; entries that do not decode) equals merging the selected sources
— each file path as given, a directory's non-directory `*.json` entries in lexical order — one
by one, left to right, starting from the zero configuration; it fails iff one of them fails. -/
theorem C31_fold (ps : List PathArg) :
    readPathsS Gen.MergeConfig.readShape table ps =
      (allOk (sources ps)).map (fun cs => cs.foldl (merge table) (zero table)) := by
  rw [C31_reader_is_model]; exact readLoop_eq table ps (zero table)

def exComp : Config := (zero table).map fun p => if p.1 == "EnableCompression" then (p.1, .bool true) else p

/-- Regression witness (seeded mutation C31-a): merging a directory's files into an own empty
configuration first and that into the result is NOT the same reader — a directory that
contributes no `.json` file then acts as an extra empty source and resets the compression
switch (which always comes from the later source). -/
theorem C31_separate_dir_counterexample :
    get ((readPathsS { canonicalRead with dirMode := .separate } table [.file (some exComp), .dir []]).getD [])
        "EnableCompression" = .bool false ∧
    get ((readPathsS canonicalRead table [.file (some exComp), .dir []]).getD []) "EnableCompression" = .bool true := by
  decide +kernel

/-- `sources` keeps every occurrence: a file reached twice (a repeated path; a file named
explicitly that also sits in a given directory) is merged twice, at both positions — that is what
"reading files in order equals merging them one by one" says (`C31_fold` quantifies over path
lists with repetitions).  Regression witness (seeded C31-e), on a two-field table: a reader that
drops a file it has already seen is a different reader — the later occurrence no longer wins
over the file in between, and its lists are not appended a second time. -/
theorem C31_repeated_source_counterexample :
    let t : List FieldSpec := [⟨"NodeName", .str, .overrideIfNonEmpty⟩, ⟨"StartJoin", .list, .concat⟩]
    let s1 : Config := [("NodeName", .str "x"), ("StartJoin", .list ["s"])]
    let s2 : Config := [("NodeName", .str "y"), ("StartJoin", .list [])]
    let ps : List PathArg := [.file (some s1), .file (some s2), .file (some s1)]
    readPathsS canonicalRead t ps = some [("NodeName", .str "x"), ("StartJoin", .list ["s", "s"])] ∧
    ((allOk (sources ps).eraseDups).map fun cs => cs.foldl (merge t) (zero t))
      = some [("NodeName", .str "y"), ("StartJoin", .list ["s"])] := by
  decide

/-- a concrete reading: a directory listed out of order with a non-`.json` file and a
sub-directory, and a failing read -/
example :
    readPaths table [.dir [⟨"b.json", false, some exB⟩, ⟨"a.json", false, some exA⟩, ⟨"c.txt", false, none⟩, ⟨"d.json", true, none⟩]]
      = some (merge table (merge table (zero table) exA) exB) ∧
    readPaths table [.file (some exA), .dir [⟨"x.json", false, none⟩]] = none :=
  ⟨rfl, rfl⟩      -- by unfolding, which never compares two whole records (one field per table row); `decide` does

/-- `DecodeConfig` is: JSON-decode, `mapstructure`-decode into a fresh `Config` rejecting unknown
keys (`ErrorUnused: true`), then one block per duration setting, in this order, each of the shape
`if result.XRaw != "" { dur, err := time.ParseDuration(result.XRaw); if err != nil { return nil, err }; result.X = dur }`,
then `return &result, nil`. -/
theorem C31_decode_shape :
    Gen.MergeConfig.decodeTokens =
      ["decl", "json-decoder", "json-decode-or-fail", "decl", "decl",
       "mapstructure{Metadata: &md, Result: &result, ErrorUnused: true}", "fail", "mapstructure-decode-or-fail",
       "duration", "duration", "duration", "duration", "duration", "return"] ∧
    Gen.MergeConfig.durationPairs =
      [("ReconnectIntervalRaw", "ReconnectInterval"), ("ReconnectTimeoutRaw", "ReconnectTimeout"),
       ("TombstoneTimeoutRaw", "TombstoneTimeout"), ("RetryIntervalRaw", "RetryInterval"),
       ("BroadcastTimeoutRaw", "BroadcastTimeout")] := ⟨rfl, rfl⟩

/-- every `*Raw` string of `Config` has its block, raw strings and durations do not overlap, no
duration is written twice, and the fields have the expected types -/
theorem C31_decode_pairs_ok :
    (∀ pr ∈ Gen.MergeConfig.durationPairs, ∀ pr' ∈ Gen.MergeConfig.durationPairs, pr.1 ≠ pr'.2) ∧
    (Gen.MergeConfig.durationPairs.map (·.2)).Nodup ∧
    (∀ pr ∈ Gen.MergeConfig.durationPairs,
      table.any (fun fs => fs.name == pr.1 && fs.kind == .str) = true ∧
      table.any (fun fs => fs.name == pr.2 && fs.kind == .dur) = true) ∧
    (∀ fs ∈ table, endsWithRaw fs.name = true → (Gen.MergeConfig.durationPairs.map (·.1)).contains fs.name = true) := by
  refine ⟨by decide +kernel, by decide +kernel, by decide +kernel, fun fs hfs hraw => ?_⟩
  have := table_rows fs hfs
  rwa [rowOK, docOf, if_pos hraw] at this

/-- **What a file contributes after `DecodeConfig`'s post-processing**, for every decoded field
assignment `c` (the result of the JSON / mapstructure step) and every behaviour `parseDur` of
`time.ParseDuration`: decoding fails exactly when some non-empty `XRaw` does not parse;
otherwise every duration `X` whose `XRaw` is non-empty is the parsed value and EVERY other
field — also a duration whose raw string is empty — is what the file's JSON gave. -/
theorem C31_decode (parseDur : String → Option Int) (c : Config) (hc : WT table c) :
    match decodePost parseDur Gen.MergeConfig.durationPairs c with
    | none => ∃ pr ∈ Gen.MergeConfig.durationPairs, ∃ s, get c pr.1 = .str s ∧ s ≠ "" ∧ parseDur s = none
    | some c' => (∀ f, f ∉ Gen.MergeConfig.durationPairs.map (·.2) → get c' f = get c f) ∧
        ∀ pr ∈ Gen.MergeConfig.durationPairs, ∃ s, get c pr.1 = .str s ∧
          (s = "" → get c' pr.2 = get c pr.2) ∧ (s ≠ "" → ∃ n, parseDur s = some n ∧ get c' pr.2 = .int n) := by
  obtain ⟨h1, h2, h3, _⟩ := C31_decode_pairs_ok
  exact decodePost_spec parseDur _ c h1 h2 (fun pr hpr => WT_get_of_any hc (h3 pr hpr).1)
    (fun pr hpr => WT_get_of_any hc (h3 pr hpr).2)

def exRaw : Config := (zero table).map fun p =>
  if p.1 == "RetryIntervalRaw" then (p.1, .str "5s") else if p.1 == "BroadcastTimeoutRaw" then (p.1, .str "soon") else p

/-- non-vacuity: a well-typed decoded file; with a parser that knows "5s" only, decoding fails on
"soon"; with one that also reads "soon", `RetryInterval` becomes 5 s and `BroadcastTimeout` 1 -/
example : WT table exRaw ∧
    decodePost (fun s => if s = "5s" then some 5000000000 else none) Gen.MergeConfig.durationPairs exRaw = none ∧
    ((decodePost (fun s => if s = "5s" then some 5000000000 else some 1) Gen.MergeConfig.durationPairs exRaw).map
      fun c => (get c "RetryInterval", get c "BroadcastTimeout", get c "ReconnectInterval"))
      = some (.int 5000000000, .int 1, .int 0) := by decide +kernel

/-- `MergeConfig` on a heap: every object that existed before the call — in particular
every map and slice reachable from `a` or `b` — is unchanged afterwards; the call only
allocates.  Holds for every heap and all reference-level configurations. -/
theorem C31_pure (h : Heap) (a b : RConfig) :
    ∀ i, i < h.length → (mergeH table h a b).1[i]? = h[i]? :=
  (keeps_mergeH table C31_table_no_inplace h a b).2

/-- **The heap view and the value view agree**: over any heap on which the inputs are
well-formed (every map/slice field is nil or the address of an object of the right sort, every
other field a scalar), what the heap-level `MergeConfig` returns denotes exactly
`merge table` of what the inputs denote.  So `C31_pure` is about the same call whose result
`C31_fieldwise` / `C31_assoc` / `C31_fold` describe. -/
theorem C31_heap_value_agree (h : Heap) (a b : RConfig)
    (hin : ∀ fs ∈ table, RefOK h fs.kind (rget a fs.name) ∧ RefOK h fs.kind (rget b fs.name)) :
    deref table (mergeH table h a b).1 (mergeH table h a b).2 =
      merge table (deref table h a) (deref table h b) :=
  mergeH_deref C31_table_names_nodup C31_table_compat C31_table_no_inplace h a b
    (fun fs hfs => (hin fs hfs).1) (fun fs hfs => (hin fs hfs).2)

/-- the all-zero reference-level configuration (nil maps and slices) -/
def rzero : RConfig := table.map fun fs =>
  (fs.name, match fs.kind with
    | .tags => .ref none
    | .list => .slice none
    | k => .scalar (zeroVal k))

theorem rzero_refOK (h : Heap) : ∀ fs ∈ table, RefOK h fs.kind (rget rzero fs.name) := by
  intro fs hfs
  rw [rzero, rget_map _ C31_table_names_nodup hfs]
  cases fs.kind <;> trivial

/-- non-vacuity: well-formed inputs exist over any heap -/
example (h : Heap) : ∀ fs ∈ table, RefOK h fs.kind (rget rzero fs.name) ∧ RefOK h fs.kind (rget rzero fs.name) :=
  fun fs hfs => ⟨rzero_refOK h fs hfs, rzero_refOK h fs hfs⟩

/-- **Inputs read the same after the call** (what `C31_pure` means for a caller): a
well-formed input denotes the same configuration in the heap the call returns. -/
theorem C31_inputs_unchanged (h : Heap) (a b x : RConfig)
    (hx : ∀ fs ∈ table, RefOK h fs.kind (rget x fs.name)) :
    deref table (mergeH table h a b).1 x = deref table h x :=
  deref_keeps table (keeps_mergeH table C31_table_no_inplace h a b) x hx

/-- **Results do not change afterwards**: a configuration returned by `MergeConfig` denotes
the same value after ANY later `MergeConfig` call — in particular another merge of the same
first argument (`merge(base,b)` then `merge(base,c)`), whatever that later call's arguments. -/
theorem C31_results_stable (h : Heap) (a b c d : RConfig)
    (hin : ∀ fs ∈ table, RefOK h fs.kind (rget a fs.name) ∧ RefOK h fs.kind (rget b fs.name)) :
    deref table (mergeH table (mergeH table h a b).1 c d).1 (mergeH table h a b).2 =
      deref table (mergeH table h a b).1 (mergeH table h a b).2 :=
  deref_keeps table (keeps_mergeH table C31_table_no_inplace _ c d) _
    (mergeH_refsOK C31_table_names_nodup C31_table_compat C31_table_no_inplace h a b
      (fun fs hfs => (hin fs hfs).1) (fun fs hfs => (hin fs hfs).2))

/-- well-formed over `h`: every field a scalar / nil / a valid map reference / a valid slice header -/
def WF (h : Heap) (c : RConfig) : Prop := ∀ fs ∈ table, RefOK h fs.kind (rget c fs.name)

/-- **Associativity on the heap**, for inputs whose slices may have any spare capacity and may
share storage: both association orders, executed on the heap (the inner result living in the
heap the inner call returned), denote field-wise equal configurations. -/
theorem C31_assoc_heap (h : Heap) (a b c : RConfig) (ha : WF h a) (hb : WF h b) (hc : WF h c)
    (hwa : WT table (deref table h a)) (hwb : WT table (deref table h b)) (hwc : WT table (deref table h c)) :
    let m1 := mergeH table h a b
    let l := mergeH table m1.1 m1.2 c
    let m2 := mergeH table h b c
    let r := mergeH table m2.1 a m2.2
    ∀ fs ∈ table, valEq (get (deref table l.1 l.2) fs.name) (get (deref table r.1 r.2) fs.name) :=
  mergeH_assoc C31_table_names_nodup C31_table_compat C31_table_no_inplace h a b c ha hb hc hwa hwb hwc

/-- **The fold on the heap**: a chain of merges executed on the heap — each step's accumulator
is the previous step's result, in the heap that step returned; the sources may have spare
capacity and share storage — denotes the value-level left fold of `merge` over what the sources
denote.  (With `C31_fold` and `C31_decode`: what `ReadConfigPaths` returns.) -/
theorem C31_fold_heap (cs : List RConfig) : ∀ (h : Heap) (acc : RConfig), WF h acc → (∀ c ∈ cs, WF h c) →
    deref table (foldH table h acc cs).1 (foldH table h acc cs).2 =
      (cs.map (deref table h)).foldl (merge table) (deref table h acc) :=
  foldH_deref C31_table_names_nodup C31_table_compat C31_table_no_inplace cs

/-- non-vacuity: the zero configuration is well-formed over any heap and denotes a well-typed value -/
example (h : Heap) : WF h rzero := rzero_refOK h

example : WT table (deref table [] rzero) := by
  have e : deref table [] rzero = zero table :=
    List.map_congr_left fun fs hfs => by
      rw [rzero, rget_map _ C31_table_names_nodup hfs]
      cases fs.kind <;> rfl
  rw [e]
  exact WT_zero C31_table_names_nodup

/-- Regression witness: with the pre-repair statement shape (`tagsInPlace`) the call writes
`b`'s tags into `a`'s map. -/
theorem C31_pure_inplace_counterexample :
    (mergeH [⟨"Tags", .tags, .tagsInPlace⟩] [.tags [("a", "1")], .tags [("b", "2")]]
        [("Tags", .ref (some 0))] [("Tags", .ref (some 1))]).1[0]? = some (.tags [("a", "1"), ("b", "2")]) := by
  decide

/-- Witness for `result.X = append(a.X, b.X...)` (`appendInPlace`, seeded mutation C31-b), with
Go's exact `append`: the base's list has length 1 and capacity 3.  `merge(base,b)` writes `b`'s
entry into the base's backing array (input storage written) and shares it; `merge(base,c)` then
overwrites that cell, so the FIRST result now ends in `c`'s entry.  With capacity = length the
same calls are harmless (append reallocates) — which is why linear chains and literal slices
never show the defect. -/
theorem C31_append_inplace_counterexample :
    let t : List FieldSpec := [⟨"StartJoin", .list, .appendInPlace⟩]
    let base : RConfig := [("StartJoin", .slice (some (0, 1)))]
    let h : Heap := [.strs ["s", "", ""], .strs ["b"], .strs ["c"]]
    let m1 := mergeH t h base [("StartJoin", .slice (some (1, 1)))]
    let m2 := mergeH t m1.1 base [("StartJoin", .slice (some (2, 1)))]
    deref t m1.1 m1.2 = [("StartJoin", .list ["s", "b"])] ∧
    deref t m2.1 m1.2 = [("StartJoin", .list ["s", "c"])] ∧
    m1.1[0]? = some (.strs ["s", "b", ""]) ∧
    -- no spare capacity: both results stay intact
    (let h' : Heap := [.strs ["s"], .strs ["b"], .strs ["c"]]
     let n1 := mergeH t h' base [("StartJoin", .slice (some (1, 1)))]
     let n2 := mergeH t n1.1 base [("StartJoin", .slice (some (2, 1)))]
     deref t n2.1 n1.2 = [("StartJoin", .list ["s", "b"])] ∧ n2.1[0]? = h'[0]?) := by
  decide

end SerfProofs.C31
