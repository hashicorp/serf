/-
C28 — The RPC client never panics and closes subscriber channels once.

Interleaving model `SerfModel.RpcClient` of the reader goroutine against `Stop` /
`Close`, with the atomicity of `Handle` / `Cleanup` given by the handler shapes
regenerated from client/rpc_client.go (`SerfModel.Gen.RpcClient`).
-/
import SerfModel.Model.RpcClient
import SerfModel.Gen.RpcClient
import SerfProofs.Lemmas.Ite
namespace SerfProofs.C28
open SerfModel.RpcClient

/-- Source-tied obligation: in the current tree all three stream handlers run
`Handle` and `Cleanup` under their own mutex, guard the send by `!closed`, and test
`closed` before closing. -/
theorem C28_skeleton_good : SerfModel.Gen.RpcClient.skeleton.good = true := by decide +kernel

/- What `C28_safe` says of one subscriber, in the form `Handle` and `Cleanup` keep: the channel is closed iff `closed` is set,
which both methods test under the handler's mutex before they send or close. -/
structure HInv (x : H) : Prop where
  noSendOnClosed : x.sendsOnClosed = 0
  chan : x.chanClosed = x.closed
  closes : x.closes = if x.closed then 1 else 0
  cleaned : x.cleaned = true → x.closed = true

theorem HInv.init : HInv {} := ⟨rfl, rfl, rfl, fun h => nomatch h⟩

theorem HInv.handle {x : H} (h : HInv x) : HInv (handleH x) :=
  ite_prop _ (fun _ => ⟨h.1, h.2, h.3, h.4⟩) fun _ => ite_prop _ (fun _ => h) fun _ => ⟨h.1, h.2, h.3, h.4⟩

theorem HInv.cleanup {x : H} (h : HInv x) : HInv (cleanupH x) :=
  ite_prop _ (fun hc => ⟨h.1, h.2, h.3, fun _ => hc⟩) fun hc => ⟨h.1, rfl, by rw [h.3, if_neg hc]; rfl, fun _ => rfl⟩

theorem HInv.undispatch {x : H} (h : HInv x) : HInv { x with inDispatch := false } := ⟨h.1, h.2, h.3, h.4⟩

/-- The micro-steps that occur when `Handle` and `Cleanup` are atomic (`step true`); the split ones belong to the unlocked shape. -/
def GoodMicro : Micro → Prop
  | .lookup _ | .handleAtomic _ | .dereg _ | .deregAll | .cleanupAtomic _ => True
  | _ => False

/-- Every subscriber has `HInv` and no thread has a split micro-step pending, so `step true` never runs one. -/
structure Inv (s : Sys) : Prop where
  hs : ∀ x ∈ s.hs, HInv x
  thr : ∀ th ∈ s.threads, ∀ m ∈ th.pend, GoodMicro m

theorem Inv.init (nH : Nat) (progs : List (List Op)) : Inv (Sys.init nH progs) where
  hs := fun x hx => (List.eq_of_mem_replicate hx) ▸ HInv.init
  thr := fun th hth m hm => by
    obtain ⟨p, _, rfl⟩ := List.mem_map.mp hth
    cases hm

theorem Inv.set {s : Sys} (h : Inv s) {t : Nat} {th : Thr} {hs' : List H} (h1 : ∀ x ∈ hs', HInv x)
    (h2 : ∀ m ∈ th.pend, GoodMicro m) : Inv { hs := hs', threads := s.threads.set t th } :=
  ⟨h1, fun th' hth' => (List.mem_or_eq_of_mem_set hth').elim (h.thr th') (· ▸ h2)⟩

theorem mem_updH {hs : List H} {h : Nat} {f : H → H} {x : H} (hx : x ∈ updH hs h f) :
    x ∈ hs ∨ ∃ y ∈ hs, x = f y := by
  unfold updH at hx
  split at hx
  next y hy => exact (List.mem_or_eq_of_mem_set hx).imp_right fun e => ⟨y, List.mem_of_getElem? hy, e⟩
  · exact .inl hx

theorem hs_updH {hs : List H} (hinv : ∀ x ∈ hs, HInv x) (h : Nat) (f : H → H) (hf : ∀ y, HInv y → HInv (f y)) :
    ∀ x ∈ updH hs h f, HInv x := fun x hx =>
  (mem_updH hx).elim (hinv x) fun ⟨y, hy, e⟩ => e ▸ hf y (hinv y hy)

theorem good_append {a b : List Micro} (ha : ∀ m ∈ a, GoodMicro m) (hb : ∀ m ∈ b, GoodMicro m) : ∀ m ∈ a ++ b, GoodMicro m :=
  fun m hm => (List.mem_append.mp hm).elim (ha m) (hb m)

theorem good_steps_handle (h : Nat) : ∀ m ∈ handleSteps true h, GoodMicro m := by simp [handleSteps, GoodMicro]
theorem good_steps_cleanup (h : Nat) : ∀ m ∈ cleanupSteps true h, GoodMicro m := by simp [cleanupSteps, GoodMicro]

theorem step_inv (s : Sys) (t : Nat) (hinv : Inv s) : Inv (step true s t) := by
  unfold step
  cases hth : s.threads[t]? with
  | none => exact hinv
  | some th =>
    have hgood := hinv.thr th (List.mem_of_getElem? hth)
    simp only
    cases hp : th.pend with
    | nil =>
      cases htodo : th.todo with
      | nil => exact hinv
      | cons op rest =>
        cases op with
        | record h | stop h | close => exact hinv.set hinv.hs (by simp [GoodMicro])
    | cons m more =>
      rw [hp] at hgood
      have hmore : ∀ m' ∈ more, GoodMicro m' := fun m' hm' => hgood m' (List.mem_cons_of_mem _ hm')
      have hm0 : GoodMicro m := hgood m List.mem_cons_self
      cases m with
      | lookup h =>
        simp only
        cases hx : s.hs[h]? with
        | none => exact hinv.set hinv.hs hmore
        | some x =>
          exact ite_prop _ (fun _ => hinv.set hinv.hs (good_append (good_steps_handle h) hmore)) fun _ =>
            hinv.set hinv.hs hmore
      | handleAtomic h => exact hinv.set (hs_updH hinv.hs h handleH fun y hy => hy.handle) hmore
      | dereg h =>
        simp only
        cases hx : s.hs[h]? with
        | none => exact hinv.set hinv.hs hmore
        | some x =>
          exact ite_prop _ (fun _ => hinv.set (hs_updH hinv.hs h _ fun y hy => hy.undispatch)
            (good_append (good_steps_cleanup h) hmore)) fun _ => hinv.set hinv.hs hmore
      | deregAll =>
        refine hinv.set ?_ (good_append ?_ hmore)
        · intro x hx
          obtain ⟨y, hy, rfl⟩ := List.mem_map.mp hx
          exact (hinv.hs y hy).undispatch
        · intro m' h1
          obtain ⟨i, _, hi⟩ := List.mem_flatMap.mp h1
          exact good_steps_cleanup i m' hi
      | cleanupAtomic h => exact hinv.set (hs_updH hinv.hs h cleanupH fun y hy => hy.cleanup) hmore
      | handleRead h | handleSend h b | cleanupRead h | cleanupClose h | cleanupSet h => exact hm0.elim

theorem run_inv (sched : List Nat) {s : Sys} (h : Inv s) : Inv (run true s sched) :=
  List.foldlRecOn sched (step true) h fun s h t _ => step_inv s t h

/-- **No send on a closed subscriber channel, each channel closed at most once, and
exactly once when its handler was deregistered and cleaned up** — for any number of
subscribers, any reader/Stop/Close programs and every schedule, provided the
handlers have the extracted shape. -/
theorem C28_safe (sk : Skeleton) (hg : sk.good = true) (nH : Nat) (progs : List (List Op)) (sched : List Nat) :
    ∀ x ∈ (run sk.good (Sys.init nH progs) sched).hs,
      x.sendsOnClosed = 0 ∧ x.closes ≤ 1 ∧ (x.cleaned = true → x.closes = 1) := by
  rw [hg]
  intro x hx
  have h := (run_inv sched (Inv.init nH progs)).hs x hx
  refine ⟨h.noSendOnClosed, ?_, ?_⟩
  · rw [h.closes]; split <;> omega
  · intro hc; rw [h.closes, h.cleaned hc]; rfl

theorem C28_safe_current_tree (nH : Nat) (progs : List (List Op)) (sched : List Nat) :
    ∀ x ∈ (run SerfModel.Gen.RpcClient.skeleton.good (Sys.init nH progs) sched).hs,
      x.sendsOnClosed = 0 ∧ x.closes ≤ 1 ∧ (x.cleaned = true → x.closes = 1) :=
  C28_safe _ C28_skeleton_good nH progs sched

/-- Regression witness: with unsynchronised `Handle`/`Cleanup` (`good = false`; serf before
114c84c) a `Stop` between the reader's lookup and its send makes the reader send on a
closed channel — a process panic. -/
theorem C28_unlocked_sends_on_closed :
    let s := run false (Sys.init 1 [[.record 0, .record 0], [.stop 0]])
      [0, 0, 0, 0, 0, 0, 0, 1, 1, 1, 1, 0]
    s.hs.map (·.sendsOnClosed) = [1] := by decide +kernel

-- Non-vacuity: the same programs under the good skeleton (fewer steps: `Handle` and `Cleanup` are one each) are safe and close once.
example : (run true (Sys.init 1 [[.record 0, .record 0], [.stop 0]]) [0, 0, 0, 0, 0, 1, 1, 1, 0, 0]).hs.map
    (fun x => (x.sendsOnClosed, x.closes, x.cleaned)) = [(0, 1, true)] := by decide +kernel

/-- The regenerated shapes of `RPCClient.Close` and `deregisterAll`: one `shutdownLock` section containing the test
of `shutdown`, its assignment and the only `close(shutdownCh)`; the dispatch table is replaced by a fresh map under
`dispatchLock`. -/
theorem C28_close_shape :
    SerfModel.Gen.RpcClient.close.good = true ∧ SerfModel.Gen.RpcClient.deregisterAll.good = true := by decide +kernel

/-- With the whole body one critical section, the first `Close` that runs closes the channel and every later one
finds `shutdown` set. -/
theorem closeRun_atomic (t : Nat) (rest : List Nat) :
    closeRun true {} (t :: rest) = { shutdown := true, closes := 1 } :=
  List.foldlRecOn rest (closeStep true) (motive := (· = ({ shutdown := true, closes := 1 } : CS))) rfl
    fun s hs _ _ => by rw [hs]; rfl

/-- **Any number of concurrent `Close` calls close `shutdownCh` at most once** (and exactly once as soon as one of
them ran), for every schedule — under the extracted shape. -/
theorem C28_close_once (sched : List Nat) :
    (closeRun SerfModel.Gen.RpcClient.close.good {} sched).closes ≤ 1 ∧
    (sched ≠ [] → (closeRun SerfModel.Gen.RpcClient.close.good {} sched).closes = 1) := by
  rw [C28_close_shape.1]
  cases sched with
  | nil => exact ⟨Nat.zero_le _, fun h => absurd rfl h⟩
  | cons t rest => rw [closeRun_atomic]; exact ⟨Nat.le_refl _, fun _ => rfl⟩

/-- Regression witness: when the test and the update are not one critical section (check under a read lock, act
later), two racing `Close` calls both close the channel — a process panic. -/
theorem C28_split_close_closes_twice :
    (closeRun false { pending := [false, false] } [0, 1, 0, 1]).closes = 2 := by decide +kernel

end SerfProofs.C28
