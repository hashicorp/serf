/-
C25 — RPC replies and stream records stay correlated and well-formed.

(a) Reply headers: `SerfModel.Gen.IpcHeaders` is regenerated from
    cmd/serf/command/agent/ipc*.go on every run; the obligations below are decided on it.
(b) Event stream: `SerfModel.IpcStreams.esRun` (ipc_event_stream.go), for every filter
    list, buffer capacity and schedule of arrivals and stream-goroutine iterations.
(c) Query stream: `SerfModel.IpcStreams.qRun` (ipc_query_response_stream.go, the select loop
    with the `ok` flag on both receives), for every schedule of Serf deliveries, channel close, deadline and
    select choices, including failing client sends.
-/
import SerfProofs.Lemmas.IpcStreams
import SerfModel.Gen.IpcHeaders
import SerfModel.Gen.EventStreamStop
import SerfModel.Gen.IpcStreamShape
namespace SerfProofs.C25
open SerfModel SerfModel.IpcStreams SerfProofs.IpcStreams SerfModel.IpcHeaders

/-- Every `responseHeader{Seq: …}` in ipc*.go uses the handler's own `seq` (parameter; in
`handleRequest` the local read from the request header), never reassigned, or — in a
stream method — the stream's stored `seq` field. -/
theorem C25_header_seq_sites : Gen.IpcHeaders.headerSites.all HeaderSite.ok = true := by decide +kernel

/-- Every stream constructor stores the `seq` it was given. -/
theorem C25_stream_ctor_stores_seq : Gen.IpcHeaders.ctors.all CtorSite.ok = true := by decide +kernel

/-- `handleRequest` hands its `seq` to every handler, and the handlers hand theirs to the
stream constructors; no stream's `seq` field is written after construction. -/
theorem C25_seq_passed_on :
    Gen.IpcHeaders.seqCalls.all CallSite.ok = true ∧ Gen.IpcHeaders.seqFieldWrites = 0 := ⟨by decide +kernel, rfl⟩

/-- all three stream types and the request dispatcher are covered by the extraction -/
theorem C25_header_sites_cover :
    (streamTypes.all fun t => Gen.IpcHeaders.ctors.any (·.typ == t) &&
        Gen.IpcHeaders.headerSites.any (·.recvType == t)) = true ∧
    Gen.IpcHeaders.headerSites.any (·.func == "handleRequest") = true := by decide +kernel

/-- What a stream object stores and what its send methods put into the header, read off the
extracted shapes: the constructor stores its `seq` argument iff the field is initialised with the
parameter `seq`; a send method uses the stored value iff the literal's Seq is `<recv>.seq`. -/
def storedSeq (c : CtorSite) (arg : Nat) : Option Nat :=
  if c.seqFieldExpr == "seq" && c.hasSeqParam && c.seqWrites == 0 then some arg else none

def headerSeqOf (h : HeaderSite) (stored : Option Nat) : Option Nat :=
  if h.recv != "" && h.seqExpr == h.recv ++ ".seq" then stored else none

/-- **Every record on a stream carries the stream's seq**: for each stream type, whatever
sequence number `n` the stream command / query command carried and handed to the constructor,
every header built by a send method of that stream type has `Seq = n` (and by
`C25_seq_passed_on` the stream's `seq` field is never written again). -/
theorem C25_records_carry_stream_seq (n : Nat) :
    ∀ c ∈ Gen.IpcHeaders.ctors, ∀ h ∈ Gen.IpcHeaders.headerSites, h.recvType = c.typ →
      headerSeqOf h (storedSeq c n) = some n := by
  have hct : Gen.IpcHeaders.ctors.all (fun c => streamTypes.contains c.typ) = true := by decide +kernel
  intro c hcm h hhm heq
  have hc : c.ok = true := List.all_eq_true.mp C25_stream_ctor_stores_seq c hcm
  have hs : streamTypes.contains h.recvType = true := heq ▸ List.all_eq_true.mp hct c hcm
  -- a header site of a stream type is ok by the second alternative of `HeaderSite.ok`
  have hh := List.all_eq_true.mp C25_header_seq_sites h hhm
  simp only [HeaderSite.ok, hs, Bool.not_true, Bool.and_false, Bool.false_or, Bool.and_true] at hh
  rw [headerSeqOf, if_pos hh, storedSeq]
  exact if_pos hc

example : ∃ c ∈ Gen.IpcHeaders.ctors, ∃ h ∈ Gen.IpcHeaders.headerSites, h.recvType = c.typ := by decide +kernel

/-- **Event stream.**  For every filter list, capacity and schedule of events dispatched to the
stream, iterations of the stream goroutine (with succeeding or failing client sends) and `Stop()`
calls: the wanted events (those some filter accepts) dispatched while the stream is open are exactly
the logged ones, in arrival order; what was sent, then the one event lost to a failed send (if any),
then what is still buffered, is exactly those of them that found room, in order; nothing is lost
while the goroutine lives; the buffer never exceeds its capacity. -/
theorem C25_event_stream (fs : List Filter) (cap : Nat) (sched : List Act) :
    (esRun fs cap sched).log.map (·.1) = (liveArrivals sched).filter (wanted fs) ∧
    (esRun fs cap sched).sent ++ (esRun fs cap sched).lost ++ (esRun fs cap sched).buf = accepted (esRun fs cap sched).log ∧
    ((esRun fs cap sched).dead = false → (esRun fs cap sched).lost = []) ∧
    (esRun fs cap sched).buf.length ≤ cap := by
  have h : ESInv cap (esRun fs cap sched) :=
    List.foldlRecOn sched (esStep fs cap) ⟨rfl, fun _ => rfl, Nat.zero_le _⟩ fun s h a _ => esStep_inv fs cap s a h
  exact ⟨by simpa [esRun] using es_log fs cap sched {}, h.acc, h.alive, h.room⟩

/-- **In order, only matching, nothing invented**: at every moment and whatever fails, the records
sent are a prefix of the accepted arrivals (the matching events dispatched to the open stream that
found room), in arrival order. -/
theorem C25_event_sent_prefix (fs : List Filter) (cap : Nat) (sched : List Act) :
    (esRun fs cap sched).sent <+: accepted (esRun fs cap sched).log := by
  obtain ⟨_, h2, _, _⟩ := C25_event_stream fs cap sched
  exact ⟨(esRun fs cap sched).lost ++ (esRun fs cap sched).buf, by rw [← h2, List.append_assoc]⟩

/-- An event dispatched to an open stream is dropped only if it is unwanted or the buffer is full
at that moment. -/
theorem C25_event_drop_iff_full (fs : List Filter) (cap : Nat) (pre : List Act) (e : Ev)
    (hw : wanted fs e = true) (hopen : (esRun fs cap pre).stopped = false) :
    ((esRun fs cap pre).buf.length < cap →
        (esRun fs cap (pre ++ [.arrive e])).log = (esRun fs cap pre).log ++ [(e, true)]) ∧
    (¬ (esRun fs cap pre).buf.length < cap →
        (esRun fs cap (pre ++ [.arrive e])).log = (esRun fs cap pre).log ++ [(e, false)]) := by
  simp only [esRun] at hopen
  constructor <;> intro h <;> simp only [esRun] at h <;> simp [esRun, List.foldl_append, esStep, hw, h, hopen]

/-- Nothing enters a stopped stream: after a `Stop()` no later dispatch changes the log (and by
`C25_event_stream` sent ++ lost ++ buffered stays the accepted list: the goroutine only moves
buffered events to the client). -/
theorem C25_event_nothing_after_stop (fs : List Filter) (cap : Nat) (pre post : List Act) :
    (esRun fs cap (pre ++ [.stop] ++ post)).log = (esRun fs cap (pre ++ [.stop])).log := by
  have hs : (esRun fs cap (pre ++ [.stop])).stopped = true := by simp [esRun, List.foldl_append, esStep]
  have h1 := es_after_stop fs cap post hs
  simp only [esRun, List.foldl_append] at *
  exact h1

/-- Only wanted events are ever sent. -/
theorem C25_event_only_matching (fs : List Filter) (cap : Nat) (sched : List Act) (e : Ev)
    (h : e ∈ (esRun fs cap sched).sent) : wanted fs e = true := by
  have : e ∈ (esRun fs cap sched).log.map (·.1) :=
    (List.filter_sublist.map _).subset ((C25_event_sent_prefix fs cap sched).subset h)
  rw [(C25_event_stream fs cap sched).1] at this
  exact (List.mem_filter.mp this).2

/-- **Every matching event unless the buffer overflowed**: once the stream goroutine — alive, no
failed send — has caught up, `sent` is exactly the matching events dispatched to the open stream
minus those dropped on a full buffer, in order. -/
theorem C25_event_stream_drained (fs : List Filter) (cap : Nat) (sched : List Act) (n : Nat)
    (hn : (esRun fs cap sched).buf.length ≤ n) (halive : (esRun fs cap sched).dead = false) :
    (esRun fs cap (sched ++ List.replicate n .consume)).sent = accepted (esRun fs cap sched).log ∧
    (esRun fs cap (sched ++ List.replicate n .consume)).buf = [] := by
  obtain ⟨_, h2, h3, _⟩ := C25_event_stream fs cap sched
  obtain ⟨d1, d2⟩ := es_drain fs cap n (esRun fs cap sched) hn halive
  have hl := h3 halive
  simp only [esRun, List.foldl_append] at *
  refine ⟨?_, d1⟩
  rw [d2, ← h2, hl]; simp

/-- non-vacuity: capacity 1, the second matching event is dropped, the non-matching one ignored -/
example : (esRun [⟨"user", "a"⟩] 1 [.arrive ⟨"user", "a", 1⟩, .arrive ⟨"user", "b", 2⟩, .arrive ⟨"user", "a", 3⟩,
      .consume, .arrive ⟨"user", "a", 4⟩, .consume]).sent = [⟨"user", "a", 1⟩, ⟨"user", "a", 4⟩] := by decide +kernel

/-- **Each matching event once**: an event dispatched to an open stream with room enters the buffer
exactly once however many of the filters it matches (the filter loop stops at the first match). -/
theorem C25_event_once (fs : List Filter) (cap : Nat) (pre : List Act) (e : Ev)
    (hw : wanted fs e = true) (hopen : (esRun fs cap pre).stopped = false) (hroom : (esRun fs cap pre).buf.length < cap) :
    (esRun fs cap (pre ++ [.arrive e])).buf = (esRun fs cap pre).buf ++ [e] := by
  simp only [esRun] at hopen hroom
  simp [esRun, List.foldl_append, esStep, hw, hopen, hroom]

example : wanted [⟨"user", ""⟩, ⟨"user", "deploy"⟩] ⟨"user", "deploy", 1⟩ = true ∧
    (esRun [⟨"user", ""⟩, ⟨"user", "deploy"⟩] 4 [.arrive ⟨"user", "deploy", 1⟩, .consume, .consume]).sent = [⟨"user", "deploy", 1⟩] := by
  decide +kernel

/-- **Regression witness (seeded C25-e)**: with one enqueue per matching filter, a stream opened with
the overlapping filters `user,user:deploy` carries the event twice. -/
theorem C25_enqueue_per_filter_counterexample :
    (esRunPerFilter [⟨"user", ""⟩, ⟨"user", "deploy"⟩] 4 [.arrive ⟨"user", "deploy", 1⟩, .consume, .consume]).sent =
      [⟨"user", "deploy", 1⟩, ⟨"user", "deploy", 1⟩] ∧
    (liveArrivals [Act.arrive ⟨"user", "deploy", 1⟩, .consume, .consume]).filter (wanted [⟨"user", ""⟩, ⟨"user", "deploy"⟩]) =
      [⟨"user", "deploy", 1⟩] := by decide +kernel

/-- non-vacuity with a failing send and a stop: event 1 sent, event 3's send fails (lost), event 4
stays buffered, event 5 arrives after Stop and is ignored -/
example : let s := esRun [⟨"user", "a"⟩] 4 [.arrive ⟨"user", "a", 1⟩, .consume, .arrive ⟨"user", "a", 3⟩,
      .arrive ⟨"user", "a", 4⟩, .consumeFail, .consume, .stop, .arrive ⟨"user", "a", 5⟩]
    s.sent = [⟨"user", "a", 1⟩] ∧ s.lost = [⟨"user", "a", 3⟩] ∧ s.buf = [⟨"user", "a", 4⟩] ∧ s.dead = true ∧
    s.log.length = 3 := by decide +kernel

example : wanted [⟨"user", "a"⟩] ⟨"user", "a", 3⟩ = true ∧
    ¬ (esRun [⟨"user", "a"⟩] 1 [.arrive ⟨"user", "a", 1⟩]).buf.length < 1 := by decide +kernel

/-! #### HandleEvent versus Stop (the shape of serf's repair 393d7a7)

The agent's `eventLoop` copies the handler list, releases the lock and then calls
`HandleEvent` on every copied handler — possibly after, or concurrently with, `Stop()`
(stop request, client disconnect).  The extracted shape (`Gen/EventStreamStop.lean`) says
both methods hold `es.stopLock`, `HandleEvent` tests `es.stopped` before the send and `Stop`
tests and sets it before the close; with both methods under one mutex every concurrent
execution is a sequence of whole calls, and the statements below hold for EVERY such
sequence, every filter list and capacity — no hypothesis about when `Stop` happens. -/

theorem C25_stop_shape : Gen.EventStreamStop.shape.ok = true := by decide +kernel

/-- `callStep` reads three flags of the shape only, all of them set when the shape is ok. -/
theorem callStep_ok (sh : StopShape) (hok : sh.ok = true) (fs : List Filter) (cap : Nat) (s : SS) (c : Call) :
    callStep sh fs cap s c = callStep goodShape fs cap s c := by
  simp only [StopShape.ok, Bool.and_eq_true] at hok
  obtain ⟨⟨⟨⟨⟨_, a2⟩, _⟩, a4⟩, a5⟩, _⟩ := hok
  cases c <;> simp only [callStep, a2, a4, a5, goodShape] <;> rfl

theorem callStep_stopped (fs : List Filter) (cap : Nat) (s : SS) (c : Call) (hs : s.stopped = true) :
    callStep goodShape fs cap s c = s := by
  cases c with
  | handle e => simp only [callStep, goodShape, hs, Bool.and_self, if_true, ite_self]
  | stop => simp only [callStep, goodShape, hs, Bool.and_self, if_true]

theorem callStep_stop (fs : List Filter) (cap : Nat) (s : SS) : (callStep goodShape fs cap s .stop).stopped = true := by
  simp only [callStep, goodShape, Bool.true_and, Bool.or_true]
  exact ite_prop (fun x : SS => x.stopped = true) id fun _ => ite_prop (fun x : SS => x.stopped = true) (fun _ => rfl) fun _ => rfl

/-- Kept by every call under `goodShape`, for `C25_event_after_stop`: `stopped` mirrors the state of the channel, so a send
(made only when `stopped` is unset) never meets a closed channel and `Stop` closes it at most once. -/
structure StopInv (s : SS) : Prop where
  flag : s.stopped = s.closed
  noPanic : s.panicked = false
  once : s.closes ≤ 1
  unclosed : s.closed = false → s.closes = 0

theorem callStep_inv (fs : List Filter) (cap : Nat) (s : SS) (c : Call) (h : StopInv s) :
    StopInv (callStep goodShape fs cap s c) := by
  by_cases hs : s.stopped = true
  · rw [callStep_stopped fs cap s c hs]; exact h
  · -- open: the channel is open too, so a send enters the buffer or is dropped, and `Stop` closes it for the first time
    have hc : ¬ s.closed = true := h.flag ▸ hs
    cases c with
    | handle e =>
      simp only [callStep, goodShape, Bool.true_and]
      refine ite_prop _ (fun _ => h) fun _ => ?_
      rw [if_neg hs, if_neg hc]
      exact ite_prop _ (fun _ => { h with }) fun _ => h
    | stop =>
      simp only [callStep, goodShape, Bool.true_and, Bool.or_true]
      rw [if_neg hs, if_neg hc]
      exact ⟨rfl, h.noPanic, by rw [h.unclosed (Bool.eq_false_iff.mpr hc)]; exact Nat.le_refl 1, fun hh => nomatch hh⟩

/-- **HandleEvent/Stop never panic** (full strength: every sequence of `HandleEvent` and
`Stop` calls, whatever their order): no send on and no second close of the closed channel,
and the channel is closed at most once. -/
theorem C25_event_after_stop (sh : StopShape) (hok : sh.ok = true) (fs : List Filter) (cap : Nat) (calls : List Call) :
    (callRun sh fs cap {} calls).panicked = false ∧ (callRun sh fs cap {} calls).closes ≤ 1 := by
  have h : StopInv (callRun sh fs cap {} calls) :=
    List.foldlRecOn calls (callStep sh fs cap) ⟨rfl, rfl, Nat.zero_le _, fun _ => rfl⟩ fun s h c _ =>
      callStep_ok sh hok fs cap s c ▸ callStep_inv fs cap s c h
  exact ⟨h.noPanic, h.once⟩

theorem callRun_after_stop (sh : StopShape) (hok : sh.ok = true) (fs : List Filter) (cap : Nat) (s : SS) (post : List Call) :
    callRun sh fs cap (callStep sh fs cap s .stop) post = callStep sh fs cap s .stop :=
  List.foldlRecOn post (callStep sh fs cap) (motive := (· = callStep sh fs cap s .stop)) rfl fun s' hs' c _ => by
    rw [hs', callStep_ok sh hok, callStep_ok sh hok, callStep_stopped fs cap _ c (callStep_stop fs cap s)]

/-- **Stop is idempotent.** -/
theorem C25_stop_idempotent (sh : StopShape) (hok : sh.ok = true) (fs : List Filter) (cap : Nat) (s : SS) :
    callStep sh fs cap (callStep sh fs cap s .stop) .stop = callStep sh fs cap s .stop :=
  callRun_after_stop sh hok fs cap s [.stop]

/-- **Nothing enters the channel after Stop**: once a `Stop` has run, no later call changes
the buffer (and, by `C25_event_after_stop`, none panics). -/
theorem C25_nothing_sent_after_stop (sh : StopShape) (hok : sh.ok = true) (fs : List Filter) (cap : Nat)
    (pre post : List Call) :
    (callRun sh fs cap {} (pre ++ [.stop] ++ post)).buf = (callRun sh fs cap {} (pre ++ [.stop])).buf := by
  simp only [callRun, List.foldl_append, List.foldl_cons, List.foldl_nil]
  exact congrArg SS.buf (callRun_after_stop sh hok fs cap _ post)

/-- non-vacuity: the extracted shape satisfies the hypothesis; an event after Stop is ignored -/
example : goodShape.ok = true ∧
    callRun goodShape [⟨"*", ""⟩] 512 {} [.handle ⟨"user", "a", 1⟩, .stop, .stop, .handle ⟨"user", "b", 2⟩] =
      { stopped := true, closed := true, buf := [⟨"user", "a", 1⟩], panicked := false, closes := 1 } := by decide +kernel

/-- **Regression witness** (the shape before 393d7a7: HandleEvent just sends, Stop just
closes): a matching event after `Stop()` is a send on a closed channel, and a second `Stop()`
closes a closed channel — either panic kills the agent. -/
theorem C25_event_after_stop_old_counterexample :
    (callRun oldShape [⟨"*", ""⟩] 512 {} [.stop, .handle ⟨"user", "deploy", 1⟩]).panicked = true ∧
    (callRun oldShape [⟨"*", ""⟩] 512 {} [.stop, .stop]).panicked = true := by decide +kernel

/-- **Query stream.**  For every schedule (Serf deliveries, close, deadline, select choices,
failing sends), starting with or without an ack channel and whether or not the query's deadline
has already passed when the stream goroutine starts: the acks sent are a prefix of the acks Serf
delivered and the responses sent a prefix of the responses Serf delivered (so every record is a
real one, in order, none twice); while `Stream` runs no `done` has been sent; and once it has
returned — unless a client send failed — the records are acks/responses followed by exactly one
`done`. -/
theorem C25_query_stream (ackNil expired : Bool) (sched : List QAct) :
    let s := qRun (qStart goodQ ackNil expired) sched
    acksOf s.out <+: s.pushedAcks ∧ respsOf s.out <+: s.pushedResps ∧
    (s.stopped = false → s.out.all (!·.isDone) = true) ∧
    (s.stopped = true → s.failed = true ∨ ∃ pre, s.out = pre ++ [.done] ∧ pre.all (!·.isDone) = true) := by
  have h : QInv (qRun _ sched) := List.foldlRecOn sched qStep (qinv_fresh ackNil expired) fun s h a _ => qStep_inv s a h
  exact ⟨h.acks_pre, h.resps_pre, h.no_done_live, h.done_last⟩

/-- **The completion record is always sent**: whenever the deadline has fired — in particular
when it had already passed before the stream started (`qStart … expired = true`: a timeout of 1 ns,
a negative one, a slow start) — and the select takes the `done` case, `done` is appended and
`Stream` returns.  (That there is no way out of the loop without it other than a failed send is the last
conjunct of `C25_query_stream`.) -/
theorem C25_query_done_is_sent (ackNil expired : Bool) (sched : List QAct)
    (hrun : (qRun (qStart goodQ ackNil expired) sched).stopped = false)
    (hfired : (qRun (qStart goodQ ackNil expired) sched).fired = true) :
    (qStep (qRun (qStart goodQ ackNil expired) sched) (.selDone true)).out =
      (qRun (qStart goodQ ackNil expired) sched).out ++ [.done] ∧
    (qStep (qRun (qStart goodQ ackNil expired) sched) (.selDone true)).stopped = true := by
  simp [qStep, hrun, hfired]

/-- an expired query: the first thing the select can do is send `done` -/
example : (qRun (qStart goodQ false true) [.selDone true]).out = [.done] ∧
    (qRun (qStart goodQ false true) []).stopped = false ∧ (qRun (qStart goodQ false true) []).fired = true := by decide +kernel

/-- Every ack/response record is a real one. -/
theorem C25_query_records_real (ackNil expired : Bool) (sched : List QAct) (r : Rec)
    (hr : r ∈ (qRun (qStart goodQ ackNil expired) sched).out) :
    match r with
    | .ack a => a ∈ (qRun (qStart goodQ ackNil expired) sched).pushedAcks
    | .response f p => (f, p) ∈ (qRun (qStart goodQ ackNil expired) sched).pushedResps
    | .done => True := by
  obtain ⟨h1, h2, _, _⟩ := C25_query_stream ackNil expired sched
  cases r with
  | ack a => exact h1.subset (mem_acksOf hr)
  | response f p => exact h2.subset (mem_respsOf hr)
  | done => trivial

/-- Nothing is sent after `Stream` has returned (in particular nothing after `done`). -/
theorem C25_query_nothing_after_done (s : QS) (sched : List QAct) (h : s.stopped = true) :
    (qRun s sched).out = s.out :=
  (qRun_stopped sched s h).1

/-- non-vacuity: an ack, a response, close, both channels found closed, deadline, done -/
example : (qRun {} [.pushAck "n1", .selAck true, .pushResp "n1" "pong", .close, .selResp true, .selAck true,
      .selResp true, .selAck true, .fire, .selDone true, .selAck true]).out =
    [.ack "n1", .response "n1" "pong", .done] := by decide +kernel

example : (qRun {} [.fire, .selDone true]).stopped = true ∧ (qRun {} [.fire, .selDone true]).failed = false := by decide +kernel

/-- `handleStream` hands the client's filter string verbatim to `ParseEventFilter` (one call,
argument `req.Type`, neither `req` nor `filters` written afterwards) and the parsed filters to
`newEventStream` — seeded C25-b lower-cased the string first. -/
theorem C25_src_filter_verbatim : Gen.IpcStreamShape.streamRequest.ok = true := by decide +kernel

/-- `HandleEvent` consults every filter (`range es.filters`, `f.Invoke(e)`), returns when none
matched; `eventCh` has the model's capacity; `stream` ranges over `eventCh`. -/
theorem C25_src_event_stream : Gen.IpcStreamShape.eventStream.ok = true := by decide +kernel

/-- The select loop of `Stream` denotes the model's variant: both receives use the ok flag with
`ch = nil; continue`, failing sends return, `sendDone` is called at exactly one place — the
`<-done` case, which returns — there is no `break` (seeded C25-a), and before the loop there are
only the four definitions: the deadline timer is armed unconditionally from `resp.Deadline()`, no
early return (seeded C25-d). -/
theorem C25_src_query_loop : qVariantOf Gen.IpcStreamShape.queryLoop = goodQ := by decide +kernel

theorem qStepV_good (s : QS) (a : QAct) : qStepV goodQ s a = qStep s a := by
  cases a <;> simp [qStepV, qStep, goodQ]

theorem qRunV_good (s : QS) (sched : List QAct) : qRunV goodQ s sched = qRun s sched :=
  congrArg (fun f => List.foldl f s sched) (funext fun s => funext (qStepV_good s))

/-- **Query stream, for the shape the source has** (prologue and loop). -/
theorem C25_query_stream_for_source_shape (ackNil expired : Bool) (sched : List QAct) :
    let v := qVariantOf Gen.IpcStreamShape.queryLoop
    let s := qRunV v (qStart v ackNil expired) sched
    acksOf s.out <+: s.pushedAcks ∧ respsOf s.out <+: s.pushedResps ∧
    (s.stopped = false → s.out.all (!·.isDone) = true) ∧
    (s.stopped = true → s.failed = true ∨ ∃ pre, s.out = pre ++ [.done] ∧ pre.all (!·.isDone) = true) := by
  simp only [C25_src_query_loop, qRunV_good]
  exact C25_query_stream ackNil expired sched

/-- **Regression witness (seeded C25-d)**: if `Stream` returns before the loop when the deadline
has already passed, such a query gets no completion record at all: the stream has returned, no
send failed, and the records do not end with `done`. -/
theorem C25_return_if_expired_counterexample :
    let v : QVariant := { returnIfExpired := true }
    (qRunV v (qStart v false true) [.selDone true]).stopped = true ∧
    (qRunV v (qStart v false true) [.selDone true]).failed = false ∧
    (qRunV v (qStart v false true) [.selDone true]).out = [] ∧
    wellFormed (qRunV v (qStart v false true) [.selDone true]).out = false := by decide +kernel

/-- **Regression witness (seeded C25-a)**: a completion record sent when the response channel is
found closed, with the loop going on (`break` leaves only the select): the deadline then sends a
second `done`, and acks still buffered follow the first one. -/
theorem C25_done_on_close_counterexample :
    (qRunV { doneOnRespClose := true } {} [.pushAck "n1", .close, .selResp true, .selAck true, .fire, .selDone true]).out =
      [.done, .ack "n1", .done] ∧
    wellFormed (qRunV { doneOnRespClose := true } {} [.pushAck "n1", .close, .selResp true, .selAck true, .fire, .selDone true]).out = false := by
  decide +kernel

/-- the source's shape on the same schedule -/
example : (qRunV goodQ {} [.pushAck "n1", .close, .selResp true, .selAck true, .fire, .selDone true]).out =
    [.ack "n1", .done] := by decide +kernel

/-- **Regression witness**: the loop that receives without the `ok` flag (serf before 27457c1) sends
zero-value records once Serf has closed the channels — records that are no real ack. -/
theorem C25_query_stream_old_counterexample :
    (qRunOld {} [.close, .selAck true, .selResp true, .fire, .selDone true]).out =
      [.ack "", .response "" "", .done] ∧
    (qRunOld {} [.close, .selAck true, .selResp true, .fire, .selDone true]).pushedAcks = [] := by decide +kernel

/-- the loop with the `ok` flag on the same schedule -/
example : (qRun {} [.close, .selAck true, .selResp true, .fire, .selDone true]).out = [.done] := by decide +kernel

end SerfProofs.C25
