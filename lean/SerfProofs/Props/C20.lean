/-
C20 — The network coordinate stays valid whatever peers report.

Model: SerfModel/Model/Coord.lean (coordinate/client.go, coordinate/coordinate.go, serf/ping_delegate.go),
polymorphic over `FloatLike F`.  Validity, dimension, rejection and the cache theorems use no arithmetic law except
"0.0 is finite": the invariant does not depend on what the arithmetic produced, because every Update ends in
`IsValid` or a reset.  The height bound needs `math.Max`'s contract, the error bound the sign / unit-interval laws
(`LawfulFloatLike`, all proved for the exact instance `ERat` in Lemmas/ERatLaws.lean, assumed for IEEE doubles).

Histories: arbitrary lists of operations (Update with arbitrary peer coordinates, round-trip times and random
oracle, SetCoordinate, ForgetNode) from a freshly created client.  Randomness is the oracle argument `rnd`.
-/
import SerfProofs.Lemmas.Coord
import SerfProofs.Lemmas.ERatLaws
import SerfModel.Gen.CoordGuards
namespace SerfProofs.C20
open SerfModel SerfModel.Coord FloatLike

variable {F : Type} [FloatLike F]

/-- one round-trip observation: who, the coordinate the peer reported, the measured rtt (ns), and the values the
random source would return -/
structure Obs (F : Type) where
  node : String
  other : Coordinate F
  rttNs : Int
  rnd : List F

inductive Op (F : Type) where
  | observe (o : Obs F)
  | set (c : Coordinate F)
  | forget (node : String)

def applyOp (cfg : Config F) (cl : Client F) : Op F → Client F
  | .observe o => (update cfg cl o.node o.other o.rttNs o.rnd).1
  | .set c => (setCoordinate cl c).1
  | .forget n => forgetNode cl n

def run (cfg : Config F) (cl : Client F) (ops : List (Op F)) : Client F := ops.foldl (applyOp cfg) cl

/-- the configuration is sane: this is the application's choice (serf uses `DefaultConfig`), not a peer's -/
structure CfgOK (cfg : Config F) : Prop where
  errorMax_finite : finite cfg.errorMax = true
  heightMin_finite : finite cfg.heightMin = true
  errorMax_nonneg : le (zero : F) cfg.errorMax = true
  ce_nonneg : le (zero : F) cfg.ce = true
  ce_le_one : le cfg.ce (one : F) = true
  filter_pos : 0 < cfg.latencyFilterSize

def acceptable (cl : Client F) (o : Coordinate F) (rttNs : Int) : Prop :=
  cl.coord.vec.length = o.vec.length ∧ isValid o = true ∧ 0 ≤ rttNs ∧ rttNs ≤ 10000000000

theorem applyOp_coord_ind (P : Coordinate F → Prop) (cfg : Config F) (cl : Client F) (op : Op F) (h : P cl.coord)
    (hnew : P (newCoordinate cfg))
    (hobs : ∀ o rtt, op = .observe o → rejection cl o.other o.rttNs = none →
      isValid (stepped cfg cl o.node o.other o.rttNs o.rnd rtt).coord = true →
      P (stepped cfg cl o.node o.other o.rttNs o.rnd rtt).coord)
    (hset : ∀ c, op = .set c → checkCoordinate cl c = none → P c) : P (applyOp cfg cl op).coord := by
  cases op with
  | observe o => exact update_coord_ind cfg cl o.node o.other o.rttNs o.rnd P h hnew (fun rtt => hobs o rtt rfl)
  | set c =>
    simp only [applyOp, setCoordinate]
    cases hk : checkCoordinate cl c with
    | some r => exact h
    | none => exact hset c rfl hk
  | forget n => exact h

def Inv (cfg : Config F) (c : Coordinate F) : Prop := isValid c = true ∧ c.vec.length = cfg.dim

theorem inv_newCoordinate [LawfulFloatLike F] (cfg : Config F) (hc : CfgOK cfg) : Inv cfg (newCoordinate cfg) :=
  ⟨isValid_newCoordinate cfg hc.errorMax_finite hc.heightMin_finite, newCoordinate_length cfg⟩

theorem inv_applyOp [LawfulFloatLike F] (cfg : Config F) (hc : CfgOK cfg) (cl : Client F) (h : Inv cfg cl.coord)
    (op : Op F) : Inv cfg (applyOp cfg cl op).coord :=
  applyOp_coord_ind (Inv cfg) cfg cl op h (inv_newCoordinate cfg hc)
    (fun o rtt _ hr hv =>
      ⟨hv, stepped_vec_length cfg cl o.node o.other o.rttNs o.rnd rtt (rejection_eq_none_iff.1 hr).1 h.2⟩)
    (fun _ _ hk => ⟨(checkCoordinate_eq_none_iff.1 hk).2, (checkCoordinate_eq_none_iff.1 hk).1 ▸ h.2⟩)

/-- **C20 (validity, dimension).** After any history of operations on a fresh client — whatever coordinates, round-trip
times and random draws — the coordinate has only finite components and the configured number of dimensions. -/
theorem C20_valid_and_dimension [LawfulFloatLike F] (cfg : Config F) (hc : CfgOK cfg) (cl0 : Client F)
    (h0 : newClient cfg = some cl0) (ops : List (Op F)) :
    isValid (run cfg cl0 ops).coord = true ∧ (run cfg cl0 ops).coord.vec.length = cfg.dim :=
  List.foldlRecOn (motive := fun cl : Client F => Inv cfg cl.coord) ops (applyOp cfg) (b := cl0)
    (newClient_coord h0 ▸ inv_newCoordinate cfg hc) fun cl h op _ => inv_applyOp cfg hc cl h op

/-- peers report non-negative errors; coordinates installed by the application (SetCoordinate) respect the bounds -/
def OpOK (cfg : Config F) : Op F → Prop
  | .observe o => le (zero : F) o.other.error = true
  | .set c => le cfg.heightMin c.height = true ∧ le (zero : F) c.error = true ∧ le c.error cfg.errorMax = true
  | .forget _ => True

def HeightOK (cfg : Config F) (c : Coordinate F) : Prop := le cfg.heightMin c.height = true

def ErrorOK (cfg : Config F) (c : Coordinate F) : Prop :=
  le (zero : F) c.error = true ∧ le c.error cfg.errorMax = true

theorem heightOK_newCoordinate [LawfulFloatLike F] (cfg : Config F) (hc : CfgOK cfg) :
    HeightOK cfg (newCoordinate cfg) :=
  LawfulFloatLike.le_refl _ (finite_not_nan hc.heightMin_finite)

theorem errorOK_newCoordinate [LawfulFloatLike F] (cfg : Config F) (hc : CfgOK cfg) :
    ErrorOK cfg (newCoordinate cfg) :=
  ⟨hc.errorMax_nonneg, LawfulFloatLike.le_refl _ (finite_not_nan hc.errorMax_finite)⟩

/-- The height bound needs nothing of the peers (a negative reported height included): `SetCoordinate` apart, only
ApplyForce touches the height, and it ends in `math.Max(·, HeightMin)`. -/
theorem height_applyOp [LawfulFloatLike F] (cfg : Config F) (hc : CfgOK cfg) (cl : Client F)
    (hb : HeightOK cfg cl.coord) (op : Op F) (hop : ∀ c, op = .set c → HeightOK cfg c) :
    HeightOK cfg (applyOp cfg cl op).coord :=
  applyOp_coord_ind (HeightOK cfg) cfg cl op hb (heightOK_newCoordinate cfg hc)
    (fun o rtt _ _ hv =>
      (stepped_height cfg cl o.node o.other o.rttNs o.rnd rtt (finite_not_nan hc.heightMin_finite) (Or.inr hb)).resolve_left
        (Bool.eq_false_iff.1 (isValid_height hv)))
    (fun c e _ => hop c e)

theorem error_applyOp [LawfulFloatLike F] (cfg : Config F) (hc : CfgOK cfg) (cl : Client F)
    (hb : ErrorOK cfg cl.coord) (op : Op F) (hop : OpOK cfg op) : ErrorOK cfg (applyOp cfg cl op).coord :=
  applyOp_coord_ind (ErrorOK cfg) cfg cl op hb (errorOK_newCoordinate cfg hc)
    (fun o rtt e _ hv => by
      subst e
      exact (stepped_error_bounds cfg cl o.node o.other o.rttNs o.rnd rtt hc.ce_nonneg hc.ce_le_one
        hc.errorMax_nonneg hb.1 hop).resolve_left (Bool.eq_false_iff.1 (isValid_error hv)))
    (fun c e _ => by subst e; exact hop.2)

/-- **C20 (height and error bounds).** After any history in which peers report non-negative errors (and the
application only installs in-range coordinates), the height is at least HeightMin and the error estimate lies in
[0, VivaldiErrorMax] — for every arithmetic satisfying the listed IEEE-754 laws. -/
theorem C20_height_and_error_bounds [LawfulFloatLike F] (cfg : Config F) (hc : CfgOK cfg) (cl0 : Client F)
    (h0 : newClient cfg = some cl0) (ops : List (Op F)) (hops : ∀ op ∈ ops, OpOK cfg op) :
    le cfg.heightMin (run cfg cl0 ops).coord.height = true ∧
    le (zero : F) (run cfg cl0 ops).coord.error = true ∧
    le (run cfg cl0 ops).coord.error cfg.errorMax = true :=
  List.foldlRecOn (motive := fun cl : Client F => HeightOK cfg cl.coord ∧ ErrorOK cfg cl.coord) ops (applyOp cfg) (b := cl0)
    (newClient_coord h0 ▸ ⟨heightOK_newCoordinate cfg hc, errorOK_newCoordinate cfg hc⟩)
    fun cl hb op hop =>
      ⟨height_applyOp cfg hc cl hb.1 op (fun c e => by subst e; exact (hops _ hop).1),
        error_applyOp cfg hc cl hb.2 op (hops op hop)⟩

/-- The height bound alone does not need the peers' errors to be non-negative. -/
theorem C20_height_min [LawfulFloatLike F] (cfg : Config F) (hc : CfgOK cfg) (cl0 : Client F)
    (h0 : newClient cfg = some cl0) (obs : List (Obs F)) :
    le cfg.heightMin (run cfg cl0 (obs.map Op.observe)).coord.height = true :=
  List.foldlRecOn (motive := fun cl : Client F => HeightOK cfg cl.coord) (obs.map Op.observe) (applyOp cfg) (b := cl0)
    (newClient_coord h0 ▸ heightOK_newCoordinate cfg hc)
    fun cl hb op hop => height_applyOp cfg hc cl hb op fun c e => by
      obtain ⟨o, _, rfl⟩ := List.mem_map.1 hop; cases e

/-! ### the HeightMin floor is unconditional

Peers are validated for finiteness only: a peer may report a NEGATIVE height.  Then the height delta
`(own.Height + other.Height) * force / mag` of ApplyForce can be negative for a POSITIVE force (a push), so the floor
`math.Max(ret.Height, config.HeightMin)` is needed on pushes as well as on pulls.  `C20_height_min` above already
quantifies over such peers; the two statements below isolate the mechanism. -/

/-- **C20 (height floor).** Whatever the force (either sign), the other coordinate (any height, negative included)
and the random draws, ApplyForce leaves the height NaN-or-at-least-HeightMin, provided it was so before. -/
theorem C20_height_floor_unconditional [LawfulFloatLike F] (cfg : Config F) (hm : isNaN cfg.heightMin = false)
    (rnd : List F) (c : Coordinate F) (force : F) (other : Coordinate F)
    (h : isNaN c.height = true ∨ le cfg.heightMin c.height = true) :
    isNaN (applyForce cfg rnd c force other).1.height = true ∨
      le cfg.heightMin (applyForce cfg rnd c force other).1.height = true :=
  applyForce_height cfg rnd c force other hm h

/-- ApplyForce with the floor enforced for pulls only (`if force < 0 { … math.Max … }`) — NOT what the code does -/
def applyForceOneSided (cfg : Config F) (rnd : List F) (c : Coordinate F) (force : F) (other : Coordinate F) :
    Coordinate F :=
  let u := unitVectorAt rnd c.vec other.vec
  { c with
    vec := addv c.vec (mulv u.1.1 force),
    height :=
      if gt u.1.2 zeroThreshold then
        (if lt force (zero : F) then
          FloatLike.max (add (div (mul (add c.height other.height) force) u.1.2) c.height) cfg.heightMin
         else add (div (mul (add c.height other.height) force) u.1.2) c.height)
      else c.height }

def hfCfg : Config ERat :=
  { dim := 1, errorMax := .fin 2, ce := .fin (1 / 4), cc := .fin (1 / 4), adjWindow := 0,
    heightMin := .fin (1 / 100000), latencyFilterSize := 1, gravityRho := .fin 150 }

/-- The one-sided floor is wrong: a fresh coordinate (height = HeightMin = 1/100000) pushed with force 10^-6 away from a
valid peer 0.01 s away whose height is -0.005 ends with height 1/100000 - 499/10^9 < HeightMin, a finite value
(no reset); the real ApplyForce returns exactly HeightMin.  float64 instance on the real client:
corpus/C20/negative-peer-height-push.case. -/
theorem C20_one_sided_floor_counterexample :
    let cfg : Config ERat := hfCfg
    let peer : Coordinate ERat := ⟨[.fin (1 / 100)], .fin 1, .fin 0, .fin (-(5 / 1000))⟩
    isValid peer = true ∧
    (applyForceOneSided cfg [] (newCoordinate cfg) (.fin (1 / 1000000)) peer).height = .fin (1 / 100000 - 499 / 1000000000) ∧
    le cfg.heightMin (applyForceOneSided cfg [] (newCoordinate cfg) (.fin (1 / 1000000)) peer).height = false ∧
    (applyForce cfg [] (newCoordinate cfg) (.fin (1 / 1000000)) peer).1.height = cfg.heightMin := by
  decide +kernel

/-- an observation is rejected exactly when it is not acceptable -/
theorem C20_acceptable_iff (cl : Client F) (o : Coordinate F) (rttNs : Int) :
    rejection cl o rttNs = none ↔ acceptable cl o rttNs :=
  rejection_eq_none_iff

/-- **C20 (rejection).** An observation with an incompatible dimension, a non-finite component or a round-trip time
outside [0, 10 s] is answered with an error and leaves the whole client state (coordinate, adjustment window,
latency filter, reset counter) unchanged. -/
theorem C20_reject_unchanged (cfg : Config F) (cl : Client F) (o : Obs F) (h : ¬ acceptable cl o.other o.rttNs) :
    ∃ r, update cfg cl o.node o.other o.rttNs o.rnd = (cl, .rejected r) := by
  rcases update_cases cfg cl o.node o.other o.rttNs o.rnd with ⟨r, _, hu⟩ | ⟨hr, _⟩ | ⟨hr, _⟩
  · exact ⟨r, hu⟩
  · exact absurd ((C20_acceptable_iff _ _ _).1 hr) h
  · exact absurd ((C20_acceptable_iff _ _ _).1 hr) h

/-- an acceptable observation is accepted (no panic) when the latency filter keeps ≥ 1 sample -/
theorem C20_accept (cfg : Config F) (hpos : 0 < cfg.latencyFilterSize) (cl : Client F) (o : Obs F)
    (h : acceptable cl o.other o.rttNs) : (update cfg cl o.node o.other o.rttNs o.rnd).2 = .ok := by
  rcases update_cases cfg cl o.node o.other o.rttNs o.rnd with ⟨r, hr, _⟩ | ⟨_, _, _, hl⟩ | ⟨_, hu, _⟩
  · rw [(C20_acceptable_iff _ _ _).2 h] at hr; cases hr
  · exact absurd hl (latencyFilter_ne_none cfg hpos cl o.node _)
  · exact hu

/-- **C20 (single step, full strength).** For every client state — including one whose coordinate is already invalid
or of a foreign dimension —, every peer coordinate, round-trip time and random draws, `Update` does exactly one of:
* reject (the observation is not acceptable) and leave the WHOLE client unchanged;
* accept (the observation is acceptable) and end with a coordinate all of whose components are finite: either the
  computed one, or — when the computation produced a non-finite component — a fresh coordinate, counted in `resets`;
* panic, which happens only with `LatencyFilterSize = 0` (an application misconfiguration) and leaves the coordinate alone.
No arithmetic law is used except "0.0 is finite". -/
theorem C20_update_valid_or_reset [LawfulFloatLike F] (cfg : Config F)
    (he : finite cfg.errorMax = true) (hh : finite cfg.heightMin = true) (cl : Client F) (o : Obs F) :
    (¬ acceptable cl o.other o.rttNs ∧ ∃ r, update cfg cl o.node o.other o.rttNs o.rnd = (cl, .rejected r)) ∨
    (acceptable cl o.other o.rttNs ∧ (update cfg cl o.node o.other o.rttNs o.rnd).2 = .ok ∧
      isValid (update cfg cl o.node o.other o.rttNs o.rnd).1.coord = true) ∨
    ((update cfg cl o.node o.other o.rttNs o.rnd).2 = .panic ∧ cfg.latencyFilterSize = 0 ∧
      (update cfg cl o.node o.other o.rttNs o.rnd).1.coord = cl.coord) := by
  rcases update_cases cfg cl o.node o.other o.rttNs o.rnd with ⟨r, hr, hu⟩ | ⟨_, hp, hu, hl⟩ | ⟨hr, hok, rtt, _, hu⟩
  · left
    refine ⟨fun hacc => ?_, r, hu⟩
    rw [(C20_acceptable_iff _ _ _).2 hacc] at hr; cases hr
  · right; right
    refine ⟨hp, ?_, hu⟩
    rcases Nat.eq_zero_or_pos cfg.latencyFilterSize with h0 | hpos
    · exact h0
    · exact absurd hl (latencyFilter_ne_none cfg hpos cl o.node _)
  · right; left
    refine ⟨(C20_acceptable_iff _ _ _).1 hr, hok, ?_⟩
    rcases hu with ⟨hu, hv⟩ | ⟨hu, _⟩
    · rw [hu]; exact hv
    · rw [hu]; exact isValid_newCoordinate cfg he hh

/-- **C20 (cache).** `NotifyPingComplete` caches the peer's coordinate exactly when the payload decodes to a
coordinate and the observation is acceptable; then the cache holds that coordinate for the peer and the node's own
fresh coordinate; otherwise cache and client are untouched. -/
theorem C20_cache_iff_accepted (cfg : Config F) (hpos : 0 < cfg.latencyFilterSize) (n : Node F) (peer : String)
    (rttNs : Int) (p : Payload F) (rnd : List F) :
    ((notifyPingComplete cfg n peer rttNs p rnd).2 = true ↔ ∃ c, p = .coord c ∧ acceptable n.client c rttNs) ∧
    ((notifyPingComplete cfg n peer rttNs p rnd).2 = false → notifyPingComplete cfg n peer rttNs p rnd = (n, false)) ∧
    (∀ c, p = .coord c → acceptable n.client c rttNs →
        (notifyPingComplete cfg n peer rttNs p rnd).1.cache =
          ainsert (ainsert n.cache peer c) n.name (update cfg n.client peer c rttNs rnd).1.coord) := by
  cases p with
  | coord c =>
    by_cases hacc : acceptable n.client c rttNs
    · have hok := C20_accept cfg hpos n.client ⟨peer, c, rttNs, rnd⟩ hacc
      rcases hu : update cfg n.client peer c rttNs rnd with ⟨cl', r⟩
      obtain rfl : r = .ok := by rw [← hok, hu]
      simp [notifyPingComplete, hacc, hu]
    · obtain ⟨r, hr⟩ := C20_reject_unchanged cfg n.client ⟨peer, c, rttNs, rnd⟩ hacc
      simp [notifyPingComplete, show update cfg n.client peer c rttNs rnd = _ from hr, hacc]
  | _ => simp [notifyPingComplete]

/-! ### regenerated ties: the model's guards and statement orders ARE the ones in the source

`SerfModel.Gen.CoordGuards` is regenerated on every check from coordinate/coordinate.go, coordinate/client.go and
serf/ping_delegate.go.  The obligations below say that the generated shapes, interpreted with the model's component
functions, are the hand-written model — for every arithmetic and every input.  An edit of componentIsValid (e.g. a
one-sided infinity test), of the fields IsValid looks at, of the order of the two checks in checkCoordinate, of the
rtt bounds or their strictness, of the order of the statements of Update (the final validity check in particular)
or of NotifyPingComplete (cache writes before the error return) changes a generated value and breaks one of them. -/

section gen
open SerfModel.Gen

def genShape : UpdShape :=
  { comp := CoordGuards.componentIsValid, valid := CoordGuards.isValid, checks := CoordGuards.checkCoordinate,
    guard := CoordGuards.rttGuard, steps := CoordGuards.update }

/-- componentIsValid is the model's `finite`: neither infinity (BOTH signs) nor NaN — the FloatLike validity
parameter of every theorem above -/
theorem C20_gen_componentIsValid (x : F) : CoordGuards.componentIsValid.eval x = finite x := by
  simp [CoordGuards.componentIsValid, CompExpr.eval, finite]

theorem C20_gen_isValid (c : Coordinate F) :
    CoordGuards.isValid.eval CoordGuards.componentIsValid c = SerfModel.Coord.isValid c := by
  simp [CoordGuards.isValid, ValidShape.eval, SerfModel.Coord.isValid, CoordField.get,
    C20_gen_componentIsValid, Bool.and_assoc]

theorem C20_gen_checkCoordinate (cl : Client F) (c : Coordinate F) :
    interpCheck CoordGuards.componentIsValid CoordGuards.isValid CoordGuards.checkCoordinate cl c =
      SerfModel.Coord.checkCoordinate cl c := by
  simp only [CoordGuards.checkCoordinate, interpCheck, C20_gen_isValid, SerfModel.Coord.checkCoordinate]

theorem C20_gen_rttGuard (rttNs : Int) :
    CoordGuards.rttGuard.rejects rttNs = (decide (rttNs < 0) || decide (rttNs > 10000000000)) := by
  rfl

/-- **Regenerated tie (Update).** The statements of Client.Update, in source order, interpreted with the model's
component functions, compute exactly the model's `update`. -/
theorem C20_gen_update (cfg : Config F) (cl : Client F) (node : String) (other : Coordinate F) (rttNs : Int)
    (rnd : List F) :
    interpUpdate genShape cfg cl node other rttNs rnd = SerfModel.Coord.update cfg cl node other rttNs rnd := by
  unfold SerfModel.Coord.update rejection
  simp only [interpUpdate, genShape, CoordGuards.update]
  -- one case per way through `update`; in each the interpreter runs the eleven statements to the same result
  cases hk : SerfModel.Coord.checkCoordinate cl other with
  | some r => simp [runUpdateSteps, stepUpdate, C20_gen_checkCoordinate, hk]
  | none =>
    by_cases hr : (decide (rttNs < 0) || decide (rttNs > 10000000000)) = true
    · simp [runUpdateSteps, stepUpdate, C20_gen_checkCoordinate, hk, C20_gen_rttGuard, hr]
    · cases hl : (latencyFilter cfg cl node (rttSeconds rttNs)).2 with
      | none => simp [runUpdateSteps, stepUpdate, C20_gen_checkCoordinate, hk, C20_gen_rttGuard, hr, hl]
      | some rtt =>
        by_cases hv : SerfModel.Coord.isValid (updateGravity cfg (updateVivaldi cfg rnd (latencyFilter cfg cl node (rttSeconds rttNs)).1 other rtt).2
            (updateAdjustment cfg (updateVivaldi cfg rnd (latencyFilter cfg cl node (rttSeconds rttNs)).1 other rtt).1 other rtt)).1.coord = true <;>
          simp [runUpdateSteps, stepUpdate, C20_gen_checkCoordinate, hk, C20_gen_rttGuard, hr, hl, C20_gen_isValid, hv]

/-- **Regenerated tie (ping delegate).** The statements of NotifyPingComplete in source order compute the model's
`notifyPingComplete`; in particular the error return precedes both cache writes. -/
theorem C20_gen_ping (cfg : Config F) (n : Node F) (peer : String) (rttNs : Int) (p : Payload F) (rnd : List F) :
    interpPing CoordGuards.notifyPingComplete cfg n peer rttNs p rnd =
      SerfModel.Coord.notifyPingComplete cfg n peer rttNs p rnd := by
  cases p with
  | coord c =>
    simp only [interpPing, CoordGuards.notifyPingComplete, SerfModel.Coord.notifyPingComplete]
    rcases hu : SerfModel.Coord.update cfg n.client peer c rttNs rnd with ⟨cl', r⟩
    cases r <;> simp [runPingSteps, stepPing, hu]
  | _ => rfl

/-- **Regenerated tie (arithmetic bodies).** The statements of the functions the model transcribes by hand
(latencyFilter, updateVivaldi with the error clamp, updateAdjustment, updateGravity, ApplyForce with the height
clamp, unitVectorAt, NewCoordinate), in the CANONICAL form of extract/canon.go (locals, parameters and receivers
renamed v0, v1, …; constants resolved to their values and literals normalised; index-only range loops as value
loops; `>`/`>=` oriented as `<`/`<=`; `op=` spelled out; comments and layout dropped), are the ones the model was
written against.  Renaming, hoisting a literal into a constant, an index loop versus a value loop or a flipped
comparison change nothing here; a change of an expression, an operator, a constant's VALUE or the order of two
statements breaks this obligation; the differential run then finds the input on which the behaviour differs. -/
theorem C20_gen_pinned_sources : CoordGuards.pinned = [
  ("latencyFilter", [
    "v3, v4 := v0.latencyFilterSamples[v1]",
    "if !v4 { v3 = make([]float64, 0, v0.config.LatencyFilterSize) }",
    "v3 = append(v3, v2)",
    "if int(v0.config.LatencyFilterSize) < len(v3) { v3 = v3[1:] }",
    "v0.latencyFilterSamples[v1] = v3",
    "v5 := make([]float64, len(v3))",
    "copy(v5, v3)",
    "sort.Float64s(v5)",
    "return v5[len(v5)/2]"]),
  ("updateVivaldi", [
    "v3 := v0.coord.DistanceTo(v1).Seconds()",
    "if v2 < 1e-06 { v2 = 1e-06 }",
    "v4 := math.Abs(v3-v2) / v2",
    "v5 := v0.coord.Error + v1.Error",
    "if v5 < 1e-06 { v5 = 1e-06 }",
    "v6 := v0.coord.Error / v5",
    "v0.coord.Error = v0.config.VivaldiCE*v6*v4 + v0.coord.Error*(1-v0.config.VivaldiCE*v6)",
    "if v0.config.VivaldiErrorMax < v0.coord.Error { v0.coord.Error = v0.config.VivaldiErrorMax }",
    "v7 := v0.config.VivaldiCC * v6",
    "v8 := v7 * (v2 - v3)",
    "v0.coord = v0.coord.ApplyForce(v0.config, v8, v1)"]),
  ("updateAdjustment", [
    "if v0.config.AdjustmentWindowSize == 0 { return }",
    "v3 := v0.coord.rawDistanceTo(v1)",
    "v0.adjustmentSamples[v0.adjustmentIndex] = v2 - v3",
    "v0.adjustmentIndex = (v0.adjustmentIndex + 1) % v0.config.AdjustmentWindowSize",
    "v4 := 0",
    "for _, v5 := range v0.adjustmentSamples { v4 = v4 + v5 }",
    "v0.coord.Adjustment = v4 / (2 * float64(v0.config.AdjustmentWindowSize))"]),
  ("updateGravity", [
    "v1 := v0.origin.DistanceTo(v0.coord).Seconds()",
    "v2 := -1 * math.Pow(v1/v0.config.GravityRho, 2)",
    "v0.coord = v0.coord.ApplyForce(v0.config, v2, v0.origin)"]),
  ("ApplyForce", [
    "if !v0.IsCompatibleWith(v3) { panic(DimensionalityConflictError{}) }",
    "v4 := v0.Clone()",
    "v5, v6 := unitVectorAt(v1.rand, v0.Vec, v3.Vec)",
    "v4.Vec = add(v4.Vec, mul(v5, v2))",
    "if 1e-06 < v6 { v4.Height = (v4.Height+v3.Height)*v2/v6 + v4.Height v4.Height = math.Max(v4.Height, v1.HeightMin) }",
    "return v4"]),
  ("unitVectorAt", [
    "v3 := diff(v1, v2)",
    "if v4 := magnitude(v3); 1e-06 < v4 { return mul(v3, 1/v4), v4 }",
    "for v5 := range v3 { if v0 != nil { v3[v5] = v0.Float64() - 0.5 } else { v3[v5] = rand.Float64() - 0.5 } }",
    "if v4 := magnitude(v3); 1e-06 < v4 { return mul(v3, 1/v4), 0 }",
    "v3 = make([]float64, len(v3))",
    "v3[0] = 1",
    "return v3, 0"]),
  ("NewCoordinate", [
    "return &Coordinate{Vec: make([]float64, v0.Dimensionality), Error: v0.VivaldiErrorMax, Adjustment: 0, Height: v0.HeightMin}"])] := rfl

end gen

/-! ### hypotheses shown necessary (exact arithmetic, so none of this is a rounding artefact)

One witness each for `ce_le_one`, "peers report non-negative errors", `errorMax_nonneg`, the two finiteness conditions
and `filter_pos`; `ce_nonneg` and the `SetCoordinate` clauses of `OpOK` have none.  The witnesses for `ce_le_one`, the
peers' errors and `filter_pos` are also corpus cases (corpus/C20/necessity-*.case) run on the real client every time:
model and implementation agree bit for bit on the offending value. -/

def ncCfg : Config ERat :=
  { dim := 1, errorMax := .fin 2, ce := .fin (1 / 4), cc := .fin (1 / 4), adjWindow := 0, heightMin := .fin 0,
    latencyFilterSize := 1, gravityRho := .fin 150 }

/-- a peer exactly 1 s away whose measured round trip is exactly 1 s (so the "wrongness" is 0) -/
def ncPeer (err : ERat) : Coordinate ERat := ⟨[.fin 1], err, .fin 0, .fin 0⟩

def ncRun (cfg : Config ERat) (peerErr : ERat) : Option (Coordinate ERat × UpdateResult) :=
  (newClient cfg).map fun cl => ((update cfg cl "a" (ncPeer peerErr) 1000000000 []).1.coord,
    (update cfg cl "a" (ncPeer peerErr) 1000000000 []).2)

/-- with the sane configuration and a non-negative peer error the step is accepted and the error stays in range -/
example : CfgOK ncCfg ∧ (ncRun ncCfg (.fin 0)).map (fun r => (r.2, r.1.error)) = some (.ok, .fin (3 / 2)) := by
  refine ⟨by constructor <;> decide +kernel, by decide +kernel⟩

/-- `VivaldiCE ≤ 1` is necessary: with CE = 2 one accepted observation from a peer with error 0 drives the error
estimate to -2 (the coordinate is finite, so it is not reset). -/
theorem C20_ce_le_one_necessary :
    (ncRun { ncCfg with ce := .fin 2 } (.fin 0)).map (fun r => (r.2, r.1.error, isValid r.1)) =
      some (.ok, .fin (-2), true) := by decide +kernel

/-- "peers report non-negative errors" is necessary: a peer reporting error -2 drives the error estimate to -999998
(weight 2/10^-6, CE = 1/4). -/
theorem C20_peer_nonneg_error_necessary :
    (ncRun ncCfg (.fin (-2))).map (fun r => (r.2, r.1.error, isValid r.1)) =
      some (.ok, .fin (-999998), true) := by decide +kernel

/-- `0 ≤ VivaldiErrorMax` is necessary: a fresh client starts with error = ErrorMax. -/
theorem C20_errorMax_nonneg_necessary :
    (newClient { ncCfg with errorMax := .fin (-1) }).map (fun cl => le (zero : ERat) cl.coord.error) = some false := by
  decide +kernel

/-- finiteness of ErrorMax / HeightMin is necessary: otherwise even the fresh coordinate is invalid -/
theorem C20_cfg_finite_necessary :
    (newClient { ncCfg with errorMax := .pinf }).map (fun cl => isValid cl.coord) = some false ∧
    (newClient { ncCfg with heightMin := .nan }).map (fun cl => isValid cl.coord) = some false := by
  decide +kernel

/-- `LatencyFilterSize ≥ 1` is necessary for `C20_accept`: with 0 an acceptable observation panics
(`sorted[len(sorted)/2]` on an empty slice, client.go:144) -/
theorem C20_filter_pos_necessary :
    (ncRun { ncCfg with latencyFilterSize := 0 } (.fin 0)).map (·.2) = some .panic := by decide +kernel

def exCfg : Config ERat :=
  { dim := 2, errorMax := .fin 2, ce := .fin 1, cc := .fin 1, adjWindow := 2, heightMin := .fin 0,
    latencyFilterSize := 3, gravityRho := .fin 150 }

example : CfgOK exCfg := by constructor <;> decide
example : ∃ cl0, newClient exCfg = some cl0 := ⟨_, rfl⟩
example : OpOK exCfg (.observe ⟨"a", ⟨[.fin 3, .fin 0], .fin 1, .fin 0, .fin 1⟩, 20000000, []⟩) := by
  show FloatLike.le _ _ = true; decide
example : acceptable (F := ERat) ⟨newCoordinate exCfg, 0, [], [], 0⟩
    ⟨[.fin 3, .fin 0], .fin 1, .fin 0, .fin 1⟩ 20000000 := by
  refine ⟨rfl, by decide, by decide, by decide⟩
example : ¬ acceptable (F := ERat) ⟨newCoordinate exCfg, 0, [], [], 0⟩
    ⟨[.fin 3, .nan], .fin 1, .fin 0, .fin 1⟩ 20000000 := by
  intro h; exact absurd h.2.1 (by decide)

end SerfProofs.C20
