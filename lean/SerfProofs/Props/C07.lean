/-
C07 — Query replies are routed to their query exactly once and never after close.

Model: `SerfModel.QueryRoute`.  A schedule is ANY list of actions: registrations
(also several with the same Lamport time — the later one overwrites the map entry,
as C06 shows can happen), reply arrivals split into the code's atomic steps
(lookup / id check / Finished / duplicate check / send), timer closures of any
object at any point (also twice, also between the steps of a reply), deadlines
passing, the client consuming from the channels.  `q.ackLog` / `q.respLog` are the
result streams of query object `q`: everything ever sent on its channels, with the
step at which it was sent; `q.closedAt` is the step at which the channels were closed.
-/
import SerfProofs.Lemmas.QueryRoute
import SerfModel.Gen.QueryLocks
import SerfModel.Gen.ClockUse
namespace SerfProofs.C07
open SerfModel SerfModel.QueryRoute SerfProofs.QueryRoute

/-- **The lock shapes of the source** (regenerated from serf/query.go on every run): in `sendAck` and
`sendResponse` the test of `closed` and the channel send sit in one closeLock critical section (Lock first,
deferred Unlock, `if r.closed` inside, send inside, no call that re-locks), `Close` tests, sets `closed`
and closes both channels under the same lock, `Finished` reads under it.  The atomic actions of the model
are the code's critical sections only under these shapes; every theorem below assumes `sh.good`. -/
theorem C07_lock_shapes : Gen.QueryLocks.shapes.good = true := by decide +kernel

/-- also regenerated and part of `good`: `registerQueryResponse` stores the object under its Lamport time while
holding `queryLock`, the timer closure (fired after `timeout`) holds `queryLock` and does `delete` + `resp.Close()`
UNCONDITIONALLY; `handleQueryResponse` does lookup (under RLock) → id check → `Finished()` → duplicate check
on `acks`/`responses` → `sendAck`/`sendResponse`, the stages of the in-flight reply. -/
theorem C07_timer_and_handle_shapes :
    Gen.QueryLocks.shapes.timer.good = true ∧ Gen.QueryLocks.shapes.handle.asModelled = true := by
  obtain ⟨_, _, _, _, htimer, hhandle⟩ := (good_iff _).mp C07_lock_shapes
  exact ⟨htimer, hhandle⟩

theorem inv_run (sh : Shapes) (hg : sh.good = true) (sched : List Action) : QueryRoute.Inv (run sh sched) :=
  List.foldlRecOn sched (act sh) inv_init fun s h a _ => inv_act sh hg s a h

/-- **Routing.** After every schedule, for every query object:
at most one ack and one response per sender; only replies carrying this query's
Lamport time and id, acks on the ack stream and responses on the response stream;
nothing was sent at or after the step at which the streams were closed; the streams
were closed at most once, and exactly once if the query's timer has fired; no ack is
ever delivered for a query that did not request acks. -/
theorem C07_routing (sh : Shapes) (hg : sh.good = true) (sched : List Action) :
    ∀ q ∈ (run sh sched).objs,
      (q.ackLog.map (·.r.sender)).Nodup ∧ (q.respLog.map (·.r.sender)).Nodup ∧
      (∀ x ∈ q.ackLog ++ q.respLog, x.r.lt = q.lt ∧ x.r.id = q.id) ∧
      (∀ x ∈ q.ackLog, x.r.isAck = true) ∧ (∀ x ∈ q.respLog, x.r.isAck = false) ∧
      (∀ c, q.closedAt = some c → ∀ x ∈ q.ackLog ++ q.respLog, x.time < c) ∧
      q.closeCount ≤ 1 ∧ (q.timedOut = true → q.closeCount = 1) ∧
      (q.closed = true ↔ q.closeCount = 1) ∧ (q.closed = true ↔ q.closedAt.isSome) ∧
      (q.ackWanted = false → q.ackLog = []) := by
  intro q hq
  have h := (inv_run sh hg sched).objs q hq
  have ok : ∀ x ∈ q.ackLog ++ q.respLog, SentOK (run sh sched).now q x := fun x hx =>
    (List.mem_append.mp hx).elim (fun hx => (h.ack_ok x hx).2) (fun hx => (h.resp_ok x hx).2)
  refine ⟨h.acks_eq ▸ h.acks_nodup, h.resps_eq ▸ h.resps_nodup, fun x hx => ⟨(ok x hx).1, (ok x hx).2.1⟩,
    fun x hx => (h.ack_ok x hx).1, fun x hx => (h.resp_ok x hx).1, fun c hc x hx => (ok x hx).2.2.2 c hc, ?_, ?_, ?_,
    h.closed_iff, h.ack_nil⟩
  · rw [h.count]; split <;> omega
  · intro ht; rw [h.count, h.timed ht]; rfl
  · rw [h.count]
    cases q.closed <;> simp

/-- The timer closure closes its query and deregisters its Lamport time, whatever else is going on. -/
theorem C07_timeout_closes (sh : Shapes) (hg : sh.good = true) (s : Sys) (i : Nat) (q : QR)
    (hq : s.objs[i]? = some q) :
    ∃ q', (act sh s (.timeout i)).objs[i]? = some q' ∧ q'.closed = true ∧ q'.timedOut = true ∧
      alookup (act sh s (.timeout i)).map q.lt = none := by
  rw [act_timeout hg, hq]
  exact ⟨{ close s.now q with timedOut := true }, by rw [getElem?_modAt, hq]; exact congrArg some (if_pos rfl),
    close_closed s.now q, rfl, alookup_aerase_self⟩

/-- Once closed, a query's streams never change again — under any action. -/
theorem C07_closed_is_final (sh : Shapes) (hg : sh.good = true) (s : Sys) (a : Action) (i : Nat) (q : QR)
    (hq : s.objs[i]? = some q) (hc : q.closed = true) :
    ∃ q', (act sh s a).objs[i]? = some q' ∧ q'.ackLog = q.ackLog ∧ q'.respLog = q.respLog ∧ q'.closed = true ∧
      q'.closeCount = q.closeCount := by
  -- the object found at `i` keeps these four properties under every update an action makes
  have h : Holds s.objs i fun q' => q'.ackLog = q.ackLog ∧ q'.respLog = q.respLog ∧ q'.closed = true ∧
      q'.closeCount = q.closeCount := ⟨q, hq, rfl, rfl, hc, rfl⟩
  cases a with
  | register _ _ _ _ | query _ _ _ => exact h.append _
  | witness t => exact h
  | deadline j | consumeAck j | consumeResp j => exact h.modAt _ j fun _ hk => hk
  | timeout j =>
    rw [act_timeout hg]
    split
    · exact h
    · exact h.modAt _ j fun q' hk => by rw [close_of_closed _ hk.2.2.1]; exact hk
  | arrive r =>
    obtain ⟨fl, e, _⟩ := act_arrive sh s r
    rw [e]; exact h
  | replyStep =>
    exact replyStep_ind hg s (C := fun r => Holds r.objs i _) (fun _ _ => h) fun f _ _ =>
      h.modAt _ f.ref fun q' hk => by rw [send_of_closed _ _ hk.2.2.1]; exact hk

-- Non-vacuity: two queries share Lamport time 7 (the second overwrites the map entry); replies for
-- both ids, a duplicate, a wrong time, an ack for a query without acks; the timer of the FIRST object
-- fires between the duplicate check and the send of a reply and deregisters time 7 altogether.
private def rA : Reply := ⟨7, 100, "a", false, 1⟩
private def rB : Reply := ⟨7, 200, "b", false, 2⟩
private def sched1 : List Action :=
  [.register 7 100 false 2, .register 7 200 true 2,
   .arrive rA, .replyStep, .replyStep, .replyStep, .replyStep,          -- id 100 ≠ 200: dropped at stage 2
   .arrive rB, .replyStep, .replyStep, .replyStep, .replyStep,          -- delivered to object 1
   .arrive rB, .replyStep, .replyStep, .replyStep, .replyStep,          -- duplicate: dropped
   .arrive ⟨7, 200, "c", true, 3⟩, .replyStep, .replyStep, .replyStep,   -- ack from c at stage 5 …
   .timeout 0,                                                          -- … timer of object 0: closes 0, deletes time 7
   .replyStep,                                                          -- … still sent to object 1 (it is open)
   .arrive ⟨7, 200, "d", false, 4⟩,                                      -- time 7 no longer registered: lost
   .timeout 1, .timeout 1]
example : ((run Gen.QueryLocks.shapes sched1).objs.map fun q =>
    (q.respLog.map (·.r.sender), q.ackLog.map (·.r.sender), q.closeCount, q.closedAt)) =
    [([], [], 1, some 21), (["b"], ["c"], 1, some 24)] := by decide +kernel

/-- `Serf.Query` takes its Lamport time as `queryClock.Increment() - 1` and does nothing else with the clock
(regenerated from serf/serf.go): taking the time and advancing the clock are one atomic step — the
action `.query` of the model. -/
theorem C07_query_clock_gen :
    Gen.ClockUse.query.ltimeSource = "incrementMinus1" ∧ Gen.ClockUse.query.later = [] := ⟨rfl, rfl⟩

/-- **Concurrent `Query` calls sharing the table.** In every schedule whose queries are all issued through
`Serf.Query` (any number, interleaved in any way with replies, timers, deadlines, `Witness` steps of the
clock and client reads): the queries have pairwise distinct Lamport times, and every query whose timer has
not fired is still registered under its own time — no `Query` call overwrites another's table entry and
no timer removes another query's entry, so no reply is lost that way. -/
theorem C07_queries_keep_their_entry (sh : Shapes) (hg : sh.good = true) (sched : List Action)
    (hq : ∀ a ∈ sched, a.isRegister = false) :
    ((run sh sched).objs.map (·.lt)).Nodup ∧
    ∀ i q, (run sh sched).objs[i]? = some q → q.timedOut = false → alookup (run sh sched).map q.lt = some i := by
  have h : Inv2 (run sh sched).objs (run sh sched).map (run sh sched).clock :=
    List.foldlRecOn sched (act sh) (motive := fun s => Inv2 s.objs s.map s.clock) inv2_init
      fun s h a ha => inv2_act sh hg s a (hq a ha) h
  exact ⟨h.nodup, h.own⟩

/-- The hypothesis is needed: two raw registrations under one Lamport time (what two overlapping `Query` calls
do if the time is read with `Time()` and the clock advanced later) — the second overwrites the entry, the
first query is no longer reachable, and its timer then removes the second's entry. -/
theorem C07_shared_time_loses_entry :
    let s := run Gen.QueryLocks.shapes [.register 7 100 false 2, .register 7 200 false 2]
    alookup s.map 7 = some 1 ∧
    alookup (act Gen.QueryLocks.shapes s (.timeout 0)).map 7 = none := by decide +kernel

-- non-vacuity: three Query calls, a Witness jump in between, the first timer fires
example : ((run Gen.QueryLocks.shapes [.query 1 false 2, .witness 9, .query 2 true 2, .query 3 false 2, .timeout 0]).objs.map (·.lt),
    (run Gen.QueryLocks.shapes [.query 1 false 2, .witness 9, .query 2 true 2, .query 3 false 2, .timeout 0]).map)
    = ([0, 10, 11], [(10, 1), (11, 2)]) := by decide +kernel

/-- **Every query's streams are closed exactly once when it times out, after which nothing is sent** — over
every schedule, for the timer closure as it is in the source (delete + Close, unconditional): once the
timer of object `i` has fired, the object is closed, was closed exactly once, every reply on its streams was
sent strictly before the close, and (`C07_closed_is_final`) its streams never change again. -/
theorem C07_closed_once_after_timeout (sh : Shapes) (hg : sh.good = true) (sched : List Action) :
    ∀ q ∈ (run sh sched).objs, q.timedOut = true →
      q.closed = true ∧ q.closeCount = 1 ∧
      ∃ c, q.closedAt = some c ∧ ∀ x ∈ q.ackLog ++ q.respLog, x.time < c := by
  intro q hq ht
  obtain ⟨_, _, _, _, _, hafter, _, hto, hci, hat, _⟩ := C07_routing sh hg sched q hq
  have hc : q.closed = true := hci.mpr (hto ht)
  have hs : q.closedAt.isSome = true := hat.mp hc
  cases hca : q.closedAt with
  | none => rw [hca] at hs; cases hs
  | some c => exact ⟨hc, hto ht, c, rfl, hafter c hca⟩

/-- Regression witness: a "defensive" timer closure that deregisters and closes only if its table entry is
still present.  Two queries share Lamport time 7; the first timer removes the shared entry and closes its
own object; the second timer finds no entry and returns: the second query has timed out but its streams
are never closed. -/
def conditionalTimer : Shapes :=
  { Gen.QueryLocks.shapes with timer := { Gen.QueryLocks.shapes.timer with unconditional := false } }

theorem C07_conditional_timer_counterexample :
    conditionalTimer.good = false ∧
    ((run conditionalTimer [.register 7 100 false 2, .register 7 200 false 2, .timeout 0, .timeout 1]).objs.map
      fun q => (q.timedOut, q.closed, q.closeCount)) = [(true, true, 1), (true, false, 0)] := by decide +kernel

/-- Regression witness: the shape in which `sendResponse`/`sendAck` test through `Finished()` (its own
critical section) and lock only afterwards.  `Close()` (the timer closure here) lands between the test and
the send: the reply is sent at step 7 on streams closed at step 6 — `C07_routing` fails for this shape. -/
def splitShapes : Shapes :=
  { Gen.QueryLocks.shapes with
    sendAck := { lockFirst := false, deferred := false, earlyUnlock := true, closedTestInside := false, sendInside := false, callsOwnMethods := true },
    sendResponse := { lockFirst := false, deferred := false, earlyUnlock := true, closedTestInside := false, sendInside := false, callsOwnMethods := true } }

theorem C07_split_send_counterexample :
    splitShapes.good = false ∧
    ((run splitShapes [.register 7 100 false 2, .arrive rA, .replyStep, .replyStep, .replyStep, .replyStep,
        .timeout 0, .replyStep]).objs.map fun q => (q.respLog.map (·.time), q.closedAt)) = [([7], some 6)] := by
  decide +kernel

end SerfProofs.C07
