/-
C30 — Tag edits apply as documented and persisted tags match effective tags.

Model: `SerfModel.AgentTags`; `setTags` is parameterised by the order of the file write and the
size-checked Serf update, which `SerfModel.Gen.AgentSetTags.shape` extracts from the source.

Result.  The edit algebra holds at full strength (`C30_edit`, `C30_edit_spec`).  The
persistence claim holds at full strength *for the order "serf.SetTags first, file only after
it succeeded"* (`C30_persisted`), which is the order of the tree since c4cada7
(`C30_current_tree_serf_first`, `C30_persisted_current_tree`).  The tree before that wrote the
file first (`shape = ⟨true, false⟩`): an edit whose encoding exceeds 512 bytes is rejected by
Serf while the file already holds it (`C30_persisted_counterexample`; recorded finding
`tags-file-ahead`); for that order, as for any, `C30_persisted_partial` (no edit of the history
is rejected) and `C30_accepted_resyncs` hold.
-/
import SerfProofs.Lemmas.AgentTags
import SerfModel.Gen.AgentSetTags
import SerfModel.Gen.AgentTagsSrc
import SerfModel.Model.SourceShape
namespace SerfProofs.C30
open SerfModel SerfModel.AgentTags SerfProofs.AgentTags

/-- **The result of an RPC tag edit is (old − deleted keys) + set keys, set keys winning**,
for every old map, set map and delete list (maps = association lists without duplicate
keys, as Go maps are): a key being set has the set value; any other key is absent if it
is deleted and keeps its old value otherwise. -/
theorem C30_edit (old set : Tags) (del : List Bytes)
    (hold : (akeys old).Nodup) (hset : (akeys set).Nodup) (k : Bytes) :
    alookup (edit old set del) k =
      match alookup set k with
      | some v => some v
      | none => if del.contains k then none else alookup old k := by
  rw [edit, keep_eq]
  unfold mapsCopy
  rw [alookup_foldl_ainsert _ _ hset, alookup_foldl_ainsert _ _ (akeys_filter_nodup _ _ hold),
    alookup_filter_key (fun x => !del.contains x)]
  cases alookup set k <;> cases del.contains k <;> simp

example : alookup (edit [([1], [10]), ([2], [20])] [([2], [21]), ([3], [30])] [[1], [2], [9]]) [2] = some [21] := by decide

/-- The result is again a map (no duplicate keys). -/
theorem C30_edit_nodup (old set : Tags) (del : List Bytes) : (akeys (edit old set del)).Nodup := by
  rw [edit, keep_eq]
  exact akeys_foldl_ainsert_nodup _ _ (akeys_foldl_ainsert_nodup _ [] List.nodup_nil)

/-- The same in the form of DESIGN 7: `edit old set del` and
`insertAll (eraseKeys old del) set` are the same map. -/
theorem C30_edit_spec (old set : Tags) (del : List Bytes)
    (hold : (akeys old).Nodup) (hset : (akeys set).Nodup) (k : Bytes) :
    alookup (edit old set del) k = alookup (insertAll (eraseKeys old del) set) k := by
  rw [C30_edit old set del hold hset k, insertAll, alookup_foldl_ainsert _ _ hset, eraseKeys_eq,
    alookup_filter_key (fun x => !del.contains x)]
  cases alookup set k <;> cases del.contains k <;> rfl

example : (akeys ([([1], [10]), ([2], [20])] : Tags)).Nodup := by decide

/-- Setting and deleting the same key sets it: the delete list does not matter for a key that is set. -/
theorem C30_set_wins (old set : Tags) (del : List Bytes) (hold : (akeys old).Nodup) (hset : (akeys set).Nodup)
    (k v : Bytes) (h : alookup set k = some v) : alookup (edit old set del) k = some v := by
  rw [C30_edit old set del hold hset k, h]

/-- The closed-form size is the length of the encoding (magic byte + msgpack map). -/
theorem C30_encoded_size_exact (t : Tags) : (encodeTags t).length = encodedSize t := encodeTags_length t

/-- The size does not depend on the order in which Go iterates over the map. -/
theorem C30_encoded_size_perm (t t' : Tags) (h : t.Perm t') : encodedSize t = encodedSize t' := by
  have he : entriesSize t = entriesSize t' := by
    induction h with
    | nil => rfl
    | cons x _ ih => simp [entriesSize, ih]
    | swap x y l => simp only [entriesSize]; omega
    | trans _ _ ih1 ih2 => exact ih1.trans ih2
  have hl : t.length = t'.length := h.length_eq
  simp [encodedSize, hl, he]

/-- The extracted order of the unchanged tree is one of the two understood by the proofs:
the safe order (then `C30_persisted` applies to the code) or the file-first order of the
recorded finding. -/
theorem C30_extracted_shape :
    SerfModel.Gen.AgentSetTags.shape.SerfFirst = true ∨ SerfModel.Gen.AgentSetTags.shape = ⟨true, false⟩ := by decide

/-- Source-tied obligation: `Agent.SetTags` asks Serf first and writes the tags file only after Serf accepted the
tags (the order since the repair c4cada7). -/
theorem C30_current_tree_serf_first : SerfModel.Gen.AgentSetTags.shape.SerfFirst = true := by decide

theorem run_invariant (sh : SetTagsShape) (P : St → Prop) (hstep : ∀ s e, P s → P (step sh s e).1)
    (ops : List TagEdit) (s : St) (hs : P s) : P (run sh s ops) := by
  induction ops generalizing s with
  | nil => exact hs
  | cons e rest ih => exact ih _ (hstep s e hs)

/-- **Persisted tags = tags in effect after every prefix of every edit history, including
rejected edits** — when `Agent.SetTags` updates Serf first and writes the file only after
that succeeded (`sh.SerfFirst`).  FULL statement; it applies to the code exactly when
`SerfModel.Gen.AgentSetTags.shape.SerfFirst = true` (`C30_current_tree_serf_first`). -/
theorem C30_persisted (sh : SetTagsShape) (h : sh.SerfFirst = true) (s : St) (ops : List TagEdit)
    (hs : s.file = s.effective) (n : Nat) :
    (run sh s (ops.take n)).file = (run sh s (ops.take n)).effective := by
  refine run_invariant sh (fun s => s.file = s.effective) (fun s e hs => ?_) _ s hs
  rw [step, setTags_eq, h]
  cases fits (edit s.effective e.set e.del)
  · exact hs
  · rfl

example : (⟨false, true⟩ : SetTagsShape).SerfFirst = true := by decide

/-- `C30_persisted` instantiated at the shape regenerated from the current tree. -/
theorem C30_persisted_current_tree (s : St) (ops : List TagEdit) (hs : s.file = s.effective) (n : Nat) :
    (run SerfModel.Gen.AgentSetTags.shape s (ops.take n)).file
      = (run SerfModel.Gen.AgentSetTags.shape s (ops.take n)).effective :=
  C30_persisted _ C30_current_tree_serf_first s ops hs n

/-- … and then the next start loads exactly the tags in effect and succeeds. -/
theorem C30_restart_exact (s : St) (hs : s.file = s.effective) (hf : fits s.effective = true) :
    restart s = some s := by
  cases s with
  | mk eff file =>
    simp only at hs hf
    subst hs
    simp [restart, hf]

/-- The tags in effect always fit the limit (any order). -/
theorem C30_effective_fits (sh : SetTagsShape) (ops : List TagEdit) (s : St) (hf : fits s.effective = true) :
    fits (run sh s ops).effective = true := by
  refine run_invariant sh (fun s => fits s.effective = true) (fun s e hf => ?_) ops s hf
  rw [step, setTags_eq]
  cases hn : fits (edit s.effective e.set e.del)
  · exact hf
  · exact hn

/-- A rejected edit never changes the tags in effect (any order). -/
theorem C30_rejected_keeps_effective (sh : SetTagsShape) (s : St) (e : TagEdit)
    (h : (step sh s e).2 = false) : (step sh s e).1.effective = s.effective := by
  rw [step, setTags_eq] at h ⊢
  simp only at h
  simp only [h, Bool.false_eq_true, ↓reduceIte]

/-- An accepted edit takes effect as computed and (re-)synchronises the file (any order). -/
theorem C30_accepted_resyncs (sh : SetTagsShape) (s : St) (e : TagEdit) (h : (step sh s e).2 = true) :
    (step sh s e).1.effective = edit s.effective e.set e.del ∧ (step sh s e).1.file = (step sh s e).1.effective := by
  rw [step, setTags_eq] at h ⊢
  simp only at h
  simp only [h, ↓reduceIte, Bool.not_true, Bool.and_false, Bool.false_eq_true, and_self]

/-- PARTIAL (any order, in particular file-first): if no edit of the history is
rejected — every edit's result encodes to at most 512 bytes — the file equals the tags in
effect at the end (apply it to `ops.take n` for every prefix). -/
theorem C30_persisted_partial (sh : SetTagsShape) (s : St) (ops : List TagEdit)
    (hs : s.file = s.effective) (hacc : allAccepted sh s ops = true) :
    (run sh s ops).file = (run sh s ops).effective := by
  induction ops generalizing s with
  | nil => exact hs
  | cons e rest ih =>
    simp only [allAccepted, Bool.and_eq_true] at hacc
    exact ih _ (C30_accepted_resyncs sh s e hacc.1).2 hacc.2

example : allAccepted ⟨true, false⟩ ⟨[], []⟩ [⟨[([1], [2])], []⟩, ⟨[], [[1]]⟩] = true := by decide

/-- One edit over the limit: a 600-byte value. -/
def overLimitEdit : TagEdit := ⟨[([98], List.replicate 600 122)], []⟩

/-- COUNTEREXAMPLE for the file-first order (the tree before c4cada7): after the rejected edit the
file holds the rejected tags, the tags in effect are unchanged, and the next start fails. -/
theorem C30_persisted_counterexample :
    (step ⟨true, false⟩ ⟨[([114], [119])], [([114], [119])]⟩ overLimitEdit).2 = false ∧
    (run ⟨true, false⟩ ⟨[([114], [119])], [([114], [119])]⟩ [overLimitEdit]).file ≠
      (run ⟨true, false⟩ ⟨[([114], [119])], [([114], [119])]⟩ [overLimitEdit]).effective ∧
    restart (run ⟨true, false⟩ ⟨[([114], [119])], [([114], [119])]⟩ [overLimitEdit]) = none := by
  decide +kernel

/-! ## heap view (`SerfModel.AgentTags.Heap`): tags in effect = tags gossiped = tags file -/

/-- the value view is the heap view of a handler that builds a fresh map -/
theorem heapStep_fresh (sh : SetTagsShape) (h : Heap) (e : TagEdit) :
    (heapStep ⟨true⟩ sh h e).2 = (step sh ⟨h.conf, h.file⟩ e).2 ∧
    (heapStep ⟨true⟩ sh h e).1.conf = (step sh ⟨h.conf, h.file⟩ e).1.effective ∧
    (heapStep ⟨true⟩ sh h e).1.file = (step sh ⟨h.conf, h.file⟩ e).1.file := by
  rcases sh with ⟨a, b⟩
  unfold heapStep step setTags
  cases a <;> cases b <;> cases hf : fits (edit h.conf e.set e.del) <;> simp [hf]

theorem heapRun_invariant (hs : HandleShape) (sh : SetTagsShape) (P : Heap → Prop)
    (hstep : ∀ h e, P h → P (heapStep hs sh h e).1) (ops : List TagEdit) (h : Heap) (hh : P h) :
    P (heapRun hs sh h ops) := by
  induction ops generalizing h with
  | nil => exact hh
  | cons e rest ih => exact ih _ (hstep h e hh)

/-- **Tags in effect = tags gossiped = tags file, after every prefix of every edit history,
including rejected edits** — for a handler that builds a fresh map (`hs.freshMap`) and the
order "serf.SetTags first, file only on success" (`sh.SerfFirst`). -/
theorem C30_three_way (hs : HandleShape) (sh : SetTagsShape) (hf : hs.freshMap = true) (hsf : sh.SerfFirst = true)
    (ops : List TagEdit) (h : Heap) (h1 : h.conf = h.gossiped) (h2 : h.gossiped = h.file) (n : Nat) :
    (heapRun hs sh h (ops.take n)).conf = (heapRun hs sh h (ops.take n)).gossiped ∧
    (heapRun hs sh h (ops.take n)).gossiped = (heapRun hs sh h (ops.take n)).file := by
  refine heapRun_invariant hs sh (fun h => h.conf = h.gossiped ∧ h.gossiped = h.file) (fun h e hh => ?_) _ h ⟨h1, h2⟩
  simp only [SetTagsShape.SerfFirst, Bool.and_eq_true, Bool.not_eq_eq_eq_not, Bool.not_true] at hsf
  simp only [heapStep, hf, hsf.1, hsf.2, Bool.not_true, Bool.false_and, Bool.false_eq_true, ↓reduceIte]
  cases fits (edit h.conf e.set e.del)
  · exact hh
  · exact ⟨rfl, rfl⟩

example : (⟨true⟩ : HandleShape).freshMap = true ∧ (⟨false, true⟩ : SetTagsShape).SerfFirst = true := by decide

/-- the handler of the current tree builds a fresh map (regenerated fact) -/
theorem C30_current_tree_fresh_map : SerfModel.Gen.AgentTagsSrc.freshMap = true := by decide

/-- `C30_three_way` at the shapes regenerated from the current tree. -/
theorem C30_three_way_current_tree (ops : List TagEdit) (h : Heap) (h1 : h.conf = h.gossiped) (h2 : h.gossiped = h.file)
    (n : Nat) :
    let r := heapRun ⟨SerfModel.Gen.AgentTagsSrc.freshMap⟩ SerfModel.Gen.AgentSetTags.shape h (ops.take n)
    r.conf = r.gossiped ∧ r.gossiped = r.file :=
  C30_three_way _ _ C30_current_tree_fresh_map C30_current_tree_serf_first ops h h1 h2 n

/-- … and the next start then comes back with the same three copies. -/
theorem C30_heap_restart_exact (h : Heap) (h1 : h.conf = h.gossiped) (h2 : h.gossiped = h.file)
    (hf : fits h.gossiped = true) : heapRestart h = some h := by
  cases h with
  | mk c g f =>
    simp only at h1 h2 hf
    subst h1; subst h2
    simp [heapRestart, hf]

/-- the gossiped tags always fit the limit (any shapes) -/
theorem C30_gossiped_fits (hs : HandleShape) (sh : SetTagsShape) (ops : List TagEdit) (h : Heap)
    (hf : fits h.gossiped = true) : fits (heapRun hs sh h ops).gossiped = true := by
  refine heapRun_invariant hs sh (fun h => fits h.gossiped = true) (fun h e hf => ?_) ops h hf
  have key : ∀ new, fits (if fits new then new else h.gossiped) = true := by
    intro new
    split
    · assumption
    · exact hf
  exact key _

/-- COUNTEREXAMPLE for a handler that reuses the live map when nothing is deleted (seeded change
C30-b), even with the safe SetTags order: an over-limit edit without deletions is rejected, the
gossiped tags and the file keep the old tags, but the map `SerfConfig().Tags` returns — the base
of the next edit — already holds the rejected tags. -/
theorem C30_aliasing_counterexample :
    (heapStep ⟨false⟩ ⟨false, true⟩ ⟨[([114], [119])], [([114], [119])], [([114], [119])]⟩ overLimitEdit).2 = false ∧
    (heapStep ⟨false⟩ ⟨false, true⟩ ⟨[([114], [119])], [([114], [119])], [([114], [119])]⟩ overLimitEdit).1.conf ≠
      (heapStep ⟨false⟩ ⟨false, true⟩ ⟨[([114], [119])], [([114], [119])], [([114], [119])]⟩ overLimitEdit).1.gossiped ∧
    (heapStep ⟨false⟩ ⟨false, true⟩ ⟨[([114], [119])], [([114], [119])], [([114], [119])]⟩ overLimitEdit).1.gossiped =
      (heapStep ⟨false⟩ ⟨false, true⟩ ⟨[([114], [119])], [([114], [119])], [([114], [119])]⟩ overLimitEdit).1.file := by
  decide +kernel

/-- `C30_edit` needs maps without duplicate keys (what Go maps are): on a "set" list with a
repeated key the first entry is found by lookup while the copy loop lets the last one win. -/
theorem C30_edit_nodup_needed :
    alookup (edit [] [([1], [10]), ([1], [11])] []) [1] = some [11] ∧
    alookup ([([1], [10]), ([1], [11])] : Tags) [1] = some [10] := by decide

/-- the start condition `file = tags in effect` cannot be dropped: a rejected first edit keeps
a difference that was there before -/
theorem C30_start_condition_needed :
    (run ⟨false, true⟩ ⟨[([114], [119])], []⟩ [overLimitEdit]).file ≠
      (run ⟨false, true⟩ ⟨[([114], [119])], []⟩ [overLimitEdit]).effective := by decide +kernel

section Src
open SerfModel.SourceShape SerfModel.Gen

/-- `edit`: a fresh map; every current tag is copied unless one of the delete keys equals it
(`delTag`, `keep`); then the set tags are copied over it (`mapsCopy`); that map goes to
`Agent.SetTags` (seeded C30-b used the live map when nothing is deleted) -/
theorem C30_src_handle_tags :
    AgentTagsSrc.tagsBindings = ["v5 := make(map[string]string)"] ∧
    hasBlock ["v5 := make(map[string]string)", "for v6, v7 := range v0.agent.SerfConfig().Tags {", "var v8 bool", "for _, v9 := range v3.DeleteTags {", "v8 = (v8 || v9 == v6)", "}", "if !v8 {", "v5[v6] = v7", "}", "}", "maps.Copy(v5, v3.Tags)", "v10 := v0.agent.SetTags(v5)"] AgentTagsSrc.handleTags = true :=
  ⟨rfl, by decide +kernel⟩

/-- `setTags` / `fits` / `restart`: Serf checks the encoded size (`>` against MetaMaxSize) BEFORE
installing the map and updating the node; `serf.Create` applies the same check at start -/
theorem C30_src_serf_set_tags :
    AgentTagsSrc.serfSetTags = ["if len(v0.encodeTags(v1)) > memberlist.MetaMaxSize {", "return fmt.Errorf(\"Encoded length of tags exceeds limit of %d bytes\", memberlist.MetaMaxSize)", "}", "v0.config.Tags = v1", "return v0.memberlist.UpdateNode(v0.config.BroadcastTimeout)"] ∧
    AgentTagsSrc.createTagChecks = ["if len(v3.encodeTags(v0.Tags)) > memberlist.MetaMaxSize {"] :=
  ⟨rfl, rfl⟩

/-- `encodeTags`: the magic byte, then the map through go-msgpack's DEFAULT handle (legacy raw
string headers, no str8), for protocol ≥ 3; constants equal the model's -/
theorem C30_src_constants :
    AgentTagsSrc.tagMagicByte = SerfModel.AgentTags.tagMagicByte.toNat ∧
    AgentTagsSrc.metaMaxSize = SerfModel.AgentTags.metaMaxSize ∧
    hasBlock ["var v3 bytes.Buffer", "v3.WriteByte(255)", "v4 := codec.NewEncoder(&v3, &codec.MsgpackHandle{})", "if v5 := v4.Encode(v1); v5 != nil {"] AgentTagsSrc.encodeTags = true ∧
    hasBlock ["if v0.ProtocolVersion() < 3 {", "v2 := v1[\"role\"]", "return []byte(v2)", "}"] AgentTagsSrc.encodeTags = true := by
  decide +kernel

/-- the tags file is the JSON of exactly the map handed over, and is read back into the tags of
the configuration (the file is modelled as the map written) -/
theorem C30_src_tags_file :
    once "v2, v3 := json.MarshalIndent(v1, \"\", \" \")" AgentTagsSrc.writeTagsFile = true ∧
    once "if v3 = os.WriteFile(v0.agentConf.TagsFile, v2, 0600); v3 != nil {" AgentTagsSrc.writeTagsFile = true ∧
    once "if v5 := json.Unmarshal(v3, &v0.conf.Tags); v5 != nil {" AgentTagsSrc.loadTagsFile = true ∧
    AgentTagsSrc.writeTagsFile.length = 8 ∧ AgentTagsSrc.loadTagsFile.length = 13 := by decide +kernel

end Src

end SerfProofs.C30
