/-
C14 — A restarted node never re-delivers old user events or queries.

`Create` on a snapshot sets `eventMinTime = LastEventClock + 1` and
`queryMinTime = LastQueryClock + 1` (serf/serf.go); `handleUserEvent` /
`handleQuery` drop everything below that cut-off, and the cut-off is only ever
raised afterwards (`MergeRemoteState` with join-ignore).  The theorems are over the
de-duplication buffer model `SerfModel.EventBuf` (the same one C05 and C08 use,
generic in the item type: user events and query ids), for every buffer size, every
restored clock value and every post-restart history (gossip, push/pull replays of
arbitrary buffer images, join replay with or without ignore-old).
-/
import SerfModel.Model.EventBuf
import SerfModel.Gen.RestartCutoff
import SerfModel.Gen.RestartText
import SerfModel.Gen.PushPullReplay
import SerfProofs.Props.C08
namespace SerfProofs.C14
open SerfModel.EventBuf
open SerfProofs.EventBuf (run_invariant handle_minTime handle_delivered_iff)
open SerfModel.Atomic (W)

variable {α : Type} [DecidableEq α]

theorem run_min (ins : List (In α)) (b : Buf α) :
    b.minTime ≤ (run b ins).1.minTime ∧ ∀ d ∈ (run b ins).2, b.minTime ≤ d.1 := by
  refine run_invariant (I := fun b' D => b.minTime ≤ b'.minTime ∧ ∀ d ∈ D, b.minTime ≤ d.1) (T := fun _ => True)
    ?_ (fun _ _ _ _ _ hm h => ⟨BitVec.le_trans h.1 hm, h.2⟩) ins b [] (fun _ _ _ _ => trivial) ⟨BitVec.le_refl _, nofun⟩
  intro b' D lt x _ h
  refine ⟨by rw [handle_minTime]; exact h.1, ?_⟩
  split
  · next hr =>
    -- delivered, so not below the current cut-off
    have hge := BitVec.not_lt.1 ((handle_delivered_iff b' lt x).1 hr).1
    exact fun d hd => (List.mem_append.1 hd).elim (h.2 d) fun hd => List.mem_singleton.1 hd ▸ BitVec.le_trans h.1 hge
  · exact h.2

/-- The cut-off never goes down after the restart. -/
theorem C14_cutoff_monotone (ins : List (In α)) : ∀ (b : Buf α), b.minTime ≤ (run b ins).1.minTime :=
  fun b => (run_min ins b).1

/-- **The cut-off as written in `Create`.** For any offset `k ≥ 1` added to the recorded time (`Create` writes
`old…Clock + k`, regenerated below), nothing at or below `last` is delivered after the restart, provided
`last + k` does not wrap. -/
theorem C14_no_redelivery_offset (N : Nat) (c last : W) (k : Nat) (hk : 1 ≤ k) (hw : last.toNat + k < 2 ^ 64)
    (post : List (In α)) :
    ∀ d ∈ deliveries (Buf.start N c (last + BitVec.ofNat 64 k)) post, last < d.1 := fun d hd =>
  Nat.lt_of_lt_of_le (Lamport.lt_add_ofNat hk hw) ((run_min post (Buf.start N c (last + BitVec.ofNat 64 k))).2 d hd)

/-- **No re-delivery after a restart.** `last` is the newest event (query) time recorded
in the snapshot; the restarted node starts with cut-off `last + 1` and any restored
clock `c`.  Whatever reaches it afterwards, every delivery carries a time strictly
above `last` — provided `last` is not 2^64−1 (then `last + 1` wraps to 0: the clock-wrap
class of the C19 finding). -/
theorem C14_no_redelivery (N : Nat) (c last : W) (hlast : last ≠ BitVec.allOnes 64) (post : List (In α)) :
    ∀ d ∈ deliveries (Buf.start N c (last + 1#64)) post, last < d.1 :=
  C14_no_redelivery_offset N c last 1 (Nat.le_refl 1) (Lamport.toNat_succ_lt hlast) post

/-- In particular an event that was delivered before the restart (time ≤ `last`) is
never delivered again, however often it is replayed. -/
theorem C14_old_event_dropped (N : Nat) (c last : W) (hlast : last ≠ BitVec.allOnes 64) (post : List (In α))
    (t : W) (x : α) (ht : t ≤ last) : (t, x) ∉ deliveries (Buf.start N c (last + 1#64)) post :=
  fun h => Nat.lt_irrefl _ (Nat.lt_of_lt_of_le (C14_no_redelivery N c last hlast post (t, x) h) ht)

/-- Negation witness for the excluded value: with `last = 2^64−1` the cut-off wraps to 0
and an old event is delivered again after the restart. -/
theorem C14_wrap_counterexample :
    deliveries (α := Nat) (Buf.start 2 0#64 (BitVec.allOnes 64 + 1#64)) [.gossip 5#64 7] = [(5#64, 7)] := by decide +kernel

-- Non-vacuity: restart at last = 9 (cut-off 10); old times are dropped by gossip and by a
-- push/pull replay, new ones are delivered.
example : deliveries (α := Nat) (Buf.start 4 10#64 (9#64 + 1#64))
    [.gossip 9#64 1, .pushPull 12#64 false [some (8#64, [1, 2]), some (10#64, [3])], .gossip 11#64 4]
    = [(10#64, 3), (11#64, 4)] := by decide +kernel

/-- The regenerated facts about `Create` (serf/serf.go): both cut-offs are computed from the snapshot's recorded
event / query clock plus a constant ≥ 1, and the same recorded value is witnessed on the matching clock. -/
theorem C14_restart_shape :
    SerfModel.Gen.RestartCutoff.event.minFrom = "LastEventClock" ∧ 1 ≤ SerfModel.Gen.RestartCutoff.event.minOffset ∧
    SerfModel.Gen.RestartCutoff.event.witnessFrom = "LastEventClock" ∧
    SerfModel.Gen.RestartCutoff.query.minFrom = "LastQueryClock" ∧ 1 ≤ SerfModel.Gen.RestartCutoff.query.minOffset ∧
    SerfModel.Gen.RestartCutoff.query.witnessFrom = "LastQueryClock" :=
  ⟨rfl, by decide, rfl, rfl, by decide, rfl⟩

/-- **No re-delivery after a restart, for the regenerated offsets** of `Gen.RestartCutoff` (events and queries). -/
theorem C14_no_redelivery_current_tree (N : Nat) (c last : W) (post : List (In α))
    (hE : last.toNat + SerfModel.Gen.RestartCutoff.event.minOffset < 2 ^ 64)
    (hQ : last.toNat + SerfModel.Gen.RestartCutoff.query.minOffset < 2 ^ 64) :
    (∀ d ∈ deliveries (Buf.start N c (last + BitVec.ofNat 64 SerfModel.Gen.RestartCutoff.event.minOffset)) post, last < d.1) ∧
    (∀ d ∈ deliveries (Buf.start N c (last + BitVec.ofNat 64 SerfModel.Gen.RestartCutoff.query.minOffset)) post, last < d.1) :=
  ⟨C14_no_redelivery_offset N c last _ C14_restart_shape.2.1 hE post,
   C14_no_redelivery_offset N c last _ C14_restart_shape.2.2.2.2.1 hQ post⟩

/-- Why the offset must be at least 1: with offset 0 the newest recorded event is delivered again. -/
theorem C14_offset_zero_counterexample :
    deliveries (α := Nat) (Buf.start 4 10#64 (9#64 + BitVec.ofNat 64 0)) [.gossip 9#64 1] = [(9#64, 1)] := by decide +kernel

/-- **Across the restart, for every pre-restart history.**  Let the node run any
history `pre` (gossip, push/pull) from any state, let `last` be at least every
delivered time (the snapshot records the largest user-event time that went through
the pipeline; C10 covers the file), restart with cut-off `last + 1` and any restored
clock, and let any history `post` follow: nothing that was delivered before the
restart is delivered after it.  (`pre` enters through `hsnap` only: this is
`C14_old_event_dropped` for each element of a list bounded by `last`; that the value in
the snapshot is such a bound is assumed, not proved here.) -/
theorem C14_nothing_delivered_twice_across_restart (N N' : Nat) (c0 m0 c last : W)
    (hlast : last ≠ BitVec.allOnes 64) (pre post : List (In α))
    (hsnap : ∀ d ∈ deliveries (Buf.start N c0 m0) pre, d.1 ≤ last) :
    ∀ d ∈ deliveries (Buf.start N c0 m0) pre, d ∉ deliveries (Buf.start N' c (last + 1#64)) post := by
  intro d hd
  exact C14_old_event_dropped N' c last hlast post d.1 d.2 (hsnap d hd)

-- non-vacuity: event (5, 7) delivered before the restart, snapshot time 5, replayed afterwards
example : (5#64, 7) ∉ deliveries (α := Nat) (Buf.start 2 6#64 (5#64 + 1#64)) [.gossip 5#64 7, .pushPull 0#64 false [some (5#64, [7])]] :=
  C14_nothing_delivered_twice_across_restart 2 2 1#64 0#64 6#64 5#64 (by decide) [.gossip 5#64 7] _ (by decide) (5#64, 7) (by decide)

/-- **Queries.**  The restarted node's query handler (`handleQuery`, any node name,
tags, filters, flags and regex oracle) hands to the event channel, and re-broadcasts,
only queries with a time above the newest one recorded before the restart. -/
theorem C14_no_query_redelivery (re : SerfModel.QueryHandle.Oracle) (cfg : SerfModel.QueryHandle.NodeCfg)
    (N : Nat) (c last : W) (hlast : last ≠ BitVec.allOnes 64) (qs : List SerfModel.QueryHandle.QueryMsg) :
    (∀ d ∈ (SerfModel.QueryHandle.runQ re cfg (Buf.start N c (last + 1#64)) qs).2.1, last < d.1)
    ∧ (∀ d ∈ (SerfModel.QueryHandle.runQ re cfg (Buf.start N c (last + 1#64)) qs).2.2, last < d.1) := by
  obtain ⟨_, s1, s2⟩ := SerfProofs.C08.runQ_buf_sublist re cfg qs (Buf.start N c (last + 1#64))
  exact ⟨fun d hd => C14_no_redelivery N c last hlast _ d (s1.subset hd),
         fun d hd => C14_no_redelivery N c last hlast _ d (s2.subset hd)⟩

-- non-vacuity: a restarted node (cut-off 10) drops the old query (9, id 1) and delivers (11, id 2)
example : (SerfModel.QueryHandle.runQ (fun _ _ => none) { name := "n", tags := [] } (Buf.start 4 10#64 (9#64 + 1#64))
    [{ lt := 9#64, id := 1, flags := 0, name := "q", filters := [] },
     { lt := 11#64, id := 2, flags := 0, name := "q", filters := [] }]).2.1 = [(11#64, 2)] := by decide +kernel

/-- **Source tie (regenerated on every run): the restart cut-offs in `Create`.**
`serf.eventMinTime = oldEventClock + 1`, `serf.queryMinTime = oldQueryClock + 1` with
`old*Clock` read from the snapshot, and the clocks restored by `Witness(old*Clock)`
after the initial `Increment()` — the start state `Buf.start N clock (last + 1)` of
the theorems above. -/
theorem C14_gen_restart_cutoff :
    -- local names do not occur: a local assigned once from a short expression is replaced by
    -- that expression, every other local (the node, the snapshotter) by `_`
    SerfModel.Gen.RestartText.eventMinTime = "(_.LastEventClock()) + 1"
    ∧ SerfModel.Gen.RestartText.queryMinTime = "(_.LastQueryClock()) + 1"
    ∧ SerfModel.Gen.RestartText.clockCalls =
        ["_.eventClock.Increment()", "_.queryClock.Increment()",
         "_.eventClock.Witness((_.LastEventClock()))", "_.queryClock.Witness((_.LastQueryClock()))"] := ⟨rfl, rfl, rfl⟩

/-- **Source tie (regenerated on every run): the cut-off is only ever RAISED after the
restart.**  The only later write of `eventMinTime` (join with ignore-old in
`MergeRemoteState`) is guarded by `pp.EventLTime > d.serf.eventMinTime` — the test
`EventBuf.raiseMin` models and `C14_cutoff_monotone` relies on. -/
theorem C14_gen_cutoff_only_raised :
    SerfModel.Gen.PushPullReplay.shape.raiseTest = "pp.EventLTime > d.serf.eventMinTime"
    ∧ SerfModel.Gen.PushPullReplay.shape.raiseAssign = "d.serf.eventMinTime = pp.EventLTime"
    ∧ SerfModel.Gen.PushPullReplay.shape.raiseGuard = "isJoin && eventJoinIgnore"
    ∧ SerfModel.Gen.PushPullReplay.shape.order = ["witness", "raise", "replay"] := ⟨rfl, rfl, rfl, rfl⟩

end SerfProofs.C14
