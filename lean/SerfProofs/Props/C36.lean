/-
C36 — Name conflicts are settled by a strict majority of valid replies.

Model: `SerfModel.Conflict` (serf/serf.go `resolveNodeConflict`).  `rs` is the list
of reply payloads in the order the response channel delivered them; `decode` is
the msgpack decoder (any function).  A reply is VALID when its first byte is the
conflict-response type and the rest decodes as a member (a nil member is valid).
-/
import SerfProofs.Lemmas.Conflict
import SerfModel.Gen.ConflictVote
namespace SerfProofs.C36
open SerfModel SerfModel.Conflict SerfProofs.Conflict

/-- **The vote.** The node shuts down exactly when the valid replies naming its own
address and port are NOT a strict majority of the valid replies — for every list of
replies, every decoder, every local address. -/
theorem C36_vote (decode : Decoder) (rs : List Bytes) (addr : Bytes) (port : Nat) :
    resolve decode addr port rs = true ↔
      ¬ (2 * (validReplies decode rs).countP (mine addr port) > (validReplies decode rs).length) := by
  simp only [resolve, shutsDown, tally_eq, Bool.not_eq_true', decide_eq_false_iff_not]
  -- `matching ≥ responses/2 + 1` is a strict majority
  omega

/-- **Malformed replies are ignored**: the outcome is the outcome on the valid replies alone. -/
theorem C36_malformed_ignored (decode : Decoder) (rs : List Bytes) (addr : Bytes) (port : Nat) :
    resolve decode addr port rs =
      resolve decode addr port (rs.filter (fun r => (valid? decode r).isSome)) := by
  have hv : validReplies decode rs = validReplies decode (rs.filter (fun r => (valid? decode r).isSome)) := by
    unfold validReplies
    rw [List.filterMap_filter]
    congr 1
    funext r
    cases valid? decode r <;> rfl
  exact congrArg shutsDown (tally_congr addr port (hv ▸ .refl _))

/-- **Multisets**: the arrival order of the replies does not matter. -/
theorem C36_order_irrelevant (decode : Decoder) (rs rs' : List Bytes) (addr : Bytes) (port : Nat)
    (hp : rs.Perm rs') : resolve decode addr port rs = resolve decode addr port rs' :=
  congrArg shutsDown (tally_congr addr port (hp.filterMap _))

/-- No valid reply at all (in particular: no reply): no majority, the node shuts down. -/
theorem C36_no_valid_reply (decode : Decoder) (rs : List Bytes) (addr : Bytes) (port : Nat)
    (h : validReplies decode rs = []) : resolve decode addr port rs = true := by
  rw [C36_vote, h]; simp

/-- **A tie is not a majority**: when exactly half of the valid replies name this node it shuts down. -/
theorem C36_tie_shuts_down (decode : Decoder) (rs : List Bytes) (addr : Bytes) (port : Nat)
    (h : 2 * (validReplies decode rs).countP (mine addr port) = (validReplies decode rs).length) :
    resolve decode addr port rs = true := by
  rw [C36_vote]; omega

/-- **Support is monotone**: one more valid reply that names this node never turns "stay up" into "shut down";
one more valid reply naming someone else never turns "shut down" into "stay up". -/
theorem C36_support_monotone (decode : Decoder) (rs : List Bytes) (r : Bytes) (m : Option MAddr) (addr : Bytes) (port : Nat)
    (hr : valid? decode r = some m) :
    (mine addr port m = true → resolve decode addr port rs = false → resolve decode addr port (rs ++ [r]) = false) ∧
    (mine addr port m = false → resolve decode addr port rs = true → resolve decode addr port (rs ++ [r]) = true) := by
  have hv : validReplies decode (rs ++ [r]) = validReplies decode rs ++ [m] := by
    simp [validReplies, List.filterMap_append, hr]
  simp only [← Bool.not_eq_true, C36_vote, hv, List.countP_append, List.length_append, List.countP_singleton,
    List.length_singleton]
  constructor
  · intro hm
    simp only [hm, ↓reduceIte]
    omega
  · intro hm
    simp only [hm, Bool.false_eq_true, ↓reduceIte]
    omega

/-- A reply with the wrong type byte or an empty payload is never valid. -/
theorem C36_wrong_type_invalid (decode : Decoder) (payload : Bytes)
    (h : payload.head? ≠ some conflictResponseType) : valid? decode payload = none := by
  cases payload with
  | nil => rfl
  | cons t rest =>
    simp only [List.head?_cons, ne_eq, Option.some.injEq] at h
    simp [valid?, h]

/-- A nil member ("unknown to me") is a valid vote that is not for this node. -/
theorem C36_nil_member_not_mine (addr : Bytes) (port : Nat) (h : addr ≠ [] ∨ port ≠ 0) :
    mine addr port none = false := by
  rcases h with h | h
  · cases addr with
    | nil => exact absurd rfl h
    | cons a as => simp [mine, ipEqual]
  · simp [mine, h]

/-- The hypothesis of `C36_nil_member_not_mine` is needed: a node whose own address is nil and port 0 (not
reachable: memberlist always advertises an address) would count a nil member as a vote for itself. -/
theorem C36_nil_member_degenerate : mine [] 0 none = true := by decide

/-- **The vote as it is in the source**: type check, then a FRESH `var member Member`, then the decode,
and only then `responses++` and the matching test on address and port; survive on `matching >= majority`,
shut down otherwise; `majority` is `responses/2 + 1` as written; the type byte is the model's. -/
theorem C36_vote_shape_gen :
    Gen.ConflictVote.shape.asModelled = true ∧
    (∀ t, shutsDownG Gen.ConflictVote.majority t = shutsDown t) ∧
    Gen.ConflictVote.responseType = conflictResponseType.toNat :=
  ⟨by decide +kernel, fun _ => rfl, rfl⟩

theorem count_fromZero (dec : DecoderInto) (addr : Bytes) (port : Nat) (st : Tally × MemberVar) (r : Bytes) :
    count dec.fromZero addr port st.1 r = (countInto true dec addr port st r).1 := by
  unfold count countInto valid? DecoderInto.fromZero
  cases r with
  | nil => rfl
  | cons b rest =>
    by_cases hb : (b == conflictResponseType) = true
    · cases hd : dec {} rest <;> simp [hb, hd, mine]
    · simp [hb]

/-- **Each reply is judged on its own**: with the decode target declared inside the loop (as the source
has it), the loop over a stateful decoder is the loop of `C36_vote` over the decoder "from a zero Member":
a reply that omits its address fields never inherits them from an earlier reply. -/
theorem C36_fresh_member (dec : DecoderInto) (addr : Bytes) (port : Nat) (rs : List Bytes) :
    tallyInto true dec addr port rs = tally dec.fromZero addr port rs :=
  (List.foldl_hom Prod.fst (count_fromZero dec addr port)).symm

/-- A msgpack-like stateful decoder: first byte 1 = error, 2 = a map WITHOUT address fields (the target
keeps what it held), otherwise the bytes are the address, port 7946. -/
def keepDec : DecoderInto := fun prev b =>
  match b with
  | 1 :: _ => none
  | 2 :: _ => some prev
  | bs => some ⟨bs, 7946⟩

example : tallyInto true keepDec [127, 0, 0, 1] 7946 [[6, 127, 0, 0, 1], [6, 2], [6, 2]] = ⟨3, 1⟩ := by decide

/-- Regression witness (the hoisted `var member Member`): a reply naming the node followed by two replies
without address fields counts 3 of 3 instead of 1 of 3 — the node stays up although it lost the vote. -/
theorem C36_reused_member_counterexample :
    tallyInto false keepDec [127, 0, 0, 1] 7946 [[6, 127, 0, 0, 1], [6, 2], [6, 2]] = ⟨3, 3⟩ ∧
    shutsDown (tallyInto false keepDec [127, 0, 0, 1] 7946 [[6, 127, 0, 0, 1], [6, 2], [6, 2]]) = false ∧
    shutsDown (tallyInto true keepDec [127, 0, 0, 1] 7946 [[6, 127, 0, 0, 1], [6, 2], [6, 2]]) = true := by
  decide +kernel

-- Non-vacuity: decoder = "first byte 1 ↦ error, 2 ↦ nil member, else the bytes as an address on port 7946".
private def dec : Decoder := fun b =>
  match b with
  | 1 :: _ => none
  | 2 :: _ => some none
  | bs => some (some ⟨bs, 7946⟩)

-- 2 of 3 valid replies are mine (one 4-byte, one 16-byte form of 127.0.0.1), malformed ones ignored: stays up
example : resolve dec [127, 0, 0, 1] 7946
    [[6, 127, 0, 0, 1], [5, 127, 0, 0, 1], [6, 1], [], [6, 2],
     [6, 0, 0, 0, 0, 0, 0, 0, 0, 0, 0, 0xff, 0xff, 127, 0, 0, 1]] = false := by decide +kernel
-- 1 of 2: a tie is not a strict majority: shuts down
example : resolve dec [127, 0, 0, 1] 7946 [[6, 127, 0, 0, 1], [6, 2], [9, 9]] = true := by decide
example : resolve dec [127, 0, 0, 1] 7946 [] = true := by decide

end SerfProofs.C36
