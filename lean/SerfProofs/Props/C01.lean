/-
C01 — Membership views converge after faults heal.   (claimed PARTIALLY)

What is claimed: Serf adds no divergence on top of a truthful memberlist and completed
anti-entropy; memberlist's own convergence (after the network heals every running node's
memberlist reports exactly the running nodes as alive and has reported each stopped node down,
and push/pull keeps running) is ASSUMED and sampled on real clusters by harness/c01.go.

Model: `SerfModel.Node` (serf/serf.go, serf/delegate.go): one node's membership state machine.
The theorems are OBSERVER-LOCAL: one observer node, one subject `x` other than the observer, and
EVERY history of inputs at the observer (`run n ops`: memberlist notifications, gossip intents,
push/pull merges, local Leave / force-leave, the reaper, …).  A history is summarised, about
`x`, by (`SerfProofs.NodeObserver`)
  `leaveTimes ops x`   the Lamport times of the leave claims about `x` it delivers (gossip
                       leaves, and the artificial leave a merge creates for a member the remote
                       side lists as left, at `StatusLTimes[x] + 1`),
  `joinTimes ops x`    the times of the join intents about `x` it delivers (gossip joins, merge
                       entries for a member not listed as left),
  `lastUp x ops false` the last memberlist notification about `x` was NotifyJoin,
  `KeptAlong n ops x`  no input erases `x` or drops / lowers its buffered intent (no accepted
                       prune about `x`, the reaper does not reap `x` nor its buffered intent),
  `NoForceLeave ops x` the observer's operator does not force-leave `x`.

Each theorem gives the status the observer lists for `x` from hypotheses on its history alone, so two
observers whose histories satisfy the same hypotheses list `x` with the same status.

The hypothesis of `C01_running_alive_partial`, "every leave claim is strictly older than some join
intent", excludes exactly two recorded defects:
  * the tie `rejoined-stuck-leaving`: a restarted member's join intent carries the same Lamport
    time as the artificial leave a merge creates from a stale LeftMembers entry, so the join is
    not newer and the member stays leaving (`C01_running_alive_counterexample` below;
    `C02_rejoined_stuck_leaving_counterexample` in Props/C02.lean);
  * the silently adopted claim (`C02_agreement_partial_merge_adopts_silently` in Props/C02.lean):
    a claim about the running local node adopted through a merge is never refuted, so no newer
    join intent is ever produced.
-/
import SerfProofs.Lemmas.NodeObserver
import SerfProofs.Props.C15
import SerfProofs.Lemmas.ClusterSync
namespace SerfProofs.C01
open SerfModel SerfModel.Node SerfProofs.NodeSteps SerfProofs.NodeObserver

/-- For EVERY history at a new observer: if the last memberlist notification about `x` is a
join, `x` is not erased, the observer's operator does not force-leave `x`, and every leave claim
about `x` delivered to the observer (by gossip, or created by a merge from a LeftMembers entry) is
strictly older than some join intent about `x` delivered to it, the observer lists `x` as alive. -/
theorem C01_running_alive_partial (name : Name) (cfg : Config) (ops : List Op) (x : Name) (hx : x ≠ name)
    (hk : KeptAlong (Node.init name cfg) ops x) (hf : NoForceLeave ops x)
    (hup : lastUp x ops false = true)
    (hnewer : ∀ l ∈ leaveTimes ops x, ∃ j ∈ joinTimes ops x, l < j) :
    statusOf (run (Node.init name cfg) ops) x = some .alive :=
  observer_alive name cfg ops x hx hk hf hup hnewer

/-- the same from any observer state that holds nothing about `x` yet (no record, no buffered intent) -/
theorem C01_running_alive_partial_from (n : Node) (ops : List Op) (x : Name) (hx : x ≠ n.name)
    (hk0 : known n x = false) (hi0 : intentOf n x = none)
    (hk : KeptAlong n ops x) (hf : NoForceLeave ops x)
    (hup : lastUp x ops false = true)
    (hnewer : ∀ l ∈ leaveTimes ops x, ∃ j ∈ joinTimes ops x, l < j) :
    statusOf (run n ops) x = some .alive :=
  observer_alive_from n ops x hx hk0 hi0 hk hf hup hnewer

/-- A history about "x": a leave claim (3) and a join intent (4) arrive before memberlist
announces "x"; it leaves at 5, goes down, restarts and is announced again; a merge with a peer
that still lists it as left creates a leave claim at 6; its new join intent carries 7. -/
def aliveHistory : List Op :=
  [.leaveMsg "x" 3 false 0, .joinMsg "x" 4 0, .nodeJoin "x", .leaveMsg "x" 5 false 0, .nodeLeave "x" 1,
   .reap 2 (fun _ t => t), .nodeJoin "x", .merge 9 [("x", 5), ("y", 2)] ["x"] 0, .joinMsg "x" 7 0,
   .merge 9 [("x", 7)] [] 0]

-- Witness: the hypotheses hold for that history (leave claims 3, 5, 6; join intents 4, 7, 7).
example : "x" ≠ "a" ∧ KeptAlong (Node.init "a" {}) aliveHistory "x" ∧ NoForceLeave aliveHistory "x" ∧
    lastUp "x" aliveHistory false = true ∧
    leaveTimes aliveHistory "x" = [3, 5, 6] ∧ joinTimes aliveHistory "x" = [4, 7, 7] ∧
    (∀ l ∈ leaveTimes aliveHistory "x", ∃ j ∈ joinTimes aliveHistory "x", l < j) :=
  ⟨by decide +kernel, keptAlong_of_B _ _ _ (by decide +kernel),
    fun op h p w e => by subst e; simp [aliveHistory] at h, by decide +kernel⟩

/-- left is absorbing: whatever arrives (gossip, merges, force-leave, down notifications, reaper
ticks that do not reap it), a left member stays left until memberlist announces it anew -/
theorem C01_left_stays_left (n : Node) (ops : List Op) (x : Name) (h : statusOf n x = some .left)
    (hj : ∀ op ∈ ops, op ≠ .nodeJoin x) (hk : KeptAlong n ops x) : statusOf (run n ops) x = some .left :=
  left_stays_left n ops x h hj hk

/-- A run used by the witnesses: "x" joins, announces its leave at Lamport time 5, goes down. -/
def leftDemo : Node :=
  run (Node.init "a" {}) [.nodeJoin "x", .leaveMsg "x" 5 false 0, .nodeLeave "x" 1]

-- Witness: stale and newer joins, a newer leave, a merge, a force-leave, a reaper tick that is too early.
example : statusOf leftDemo "x" = some .left ∧
    (∀ op ∈ [Op.joinMsg "x" 9 0, .leaveMsg "x" 11 false 0, .merge 20 [("x", 14)] [] 0, .forceLeave "x" false 0,
        .reap 3 (fun _ t => t), .nodeLeave "x" 2], op ≠ .nodeJoin "x") ∧
    KeptAlong leftDemo [.joinMsg "x" 9 0, .leaveMsg "x" 11 false 0, .merge 20 [("x", 14)] [] 0, .forceLeave "x" false 0,
        .reap 3 (fun _ t => t), .nodeLeave "x" 2] "x" :=
  ⟨by decide +kernel, fun op h e => by subst e; simp at h, keptAlong_of_B _ _ _ (by decide +kernel)⟩

/-- graceful leave: a newer leave claim about an up member, then anything except a memberlist
notification about `x` or a join intent newer than the claim, then memberlist's down
notification: the member is listed as left -/
theorem C01_left_after_leave_and_down (n : Node) (x : Name) (L t w at_ : Nat) (mid : List Op) (hx : x ≠ n.name)
    (hs : statusOf n x = some .alive ∨ statusOf n x = some .leaving) (ht : ltimeOf n x = some t) (hL : t < L)
    (hmid1 : ∀ op ∈ mid, op ≠ .nodeJoin x ∧ ∀ a, op ≠ .nodeLeave x a)
    (hmid2 : ∀ j ∈ joinTimes mid x, j ≤ L)
    (hk : KeptAlong (step n (.leaveMsg x L false w)).1 mid x) :
    statusOf (run n ([.leaveMsg x L false w] ++ mid ++ [.nodeLeave x at_])) x = some .left :=
  leave_then_down_left n x L t w at_ mid hx hs ht hL hmid1 hmid2 hk

/-- The observer after memberlist announced "x". -/
def upDemo : Node := run (Node.init "a" {}) [.nodeJoin "x"]

-- Witness: between the claim at 5 and the down notification: a stale join, a merge that repeats
-- the claim, another member joining, a reaper tick.
example : "x" ≠ upDemo.name ∧ statusOf upDemo "x" = some .alive ∧ ltimeOf upDemo "x" = some 0 ∧ (0 : Nat) < 5 ∧
    (∀ op ∈ [Op.joinMsg "x" 4 0, .merge 9 [("x", 4)] ["x"] 0, .nodeJoin "y", .reap 1 (fun _ t => t)],
      op ≠ .nodeJoin "x" ∧ ∀ a, op ≠ .nodeLeave "x" a) ∧
    (∀ j ∈ joinTimes [Op.joinMsg "x" 4 0, .merge 9 [("x", 4)] ["x"] 0, .nodeJoin "y", .reap 1 (fun _ t => t)] "x", j ≤ 5) ∧
    KeptAlong (step upDemo (.leaveMsg "x" 5 false 0)).1
      [.joinMsg "x" 4 0, .merge 9 [("x", 4)] ["x"] 0, .nodeJoin "y", .reap 1 (fun _ t => t)] "x" :=
  ⟨by decide +kernel, by decide +kernel, by decide +kernel, by decide +kernel,
    fun op h => ⟨fun e => by subst e; simp at h, fun a e => by subst e; simp at h⟩, by decide +kernel,
    keptAlong_of_B _ _ _ (by decide +kernel)⟩

/-- memberlist reports an alive member down: it is listed as failed, and stays failed while
memberlist does not announce it anew and no leave / force-leave claim about it arrives -/
theorem C01_crashed_failed (n : Node) (ops : List Op) (x : Name) (at_ : Nat) (hx : x ≠ n.name)
    (h : statusOf n x = some .alive)
    (hj : ∀ op ∈ ops, op ≠ .nodeJoin x) (hl : ∀ op ∈ ops, isLeaveClaimAbout x op = false)
    (hk : KeptAlong (step n (.nodeLeave x at_)).1 ops x) :
    statusOf (run n ([.nodeLeave x at_] ++ ops)) x = some .failed := by
  show statusOf (run (step n (.nodeLeave x at_)).1 ops) x = some .failed
  apply failed_stays_failed _ ops x _ ((down_step n x at_).1 h) hj hl hk
  rw [step_name]; exact hx

-- Witness: after the crash: joins (stale and newer), a merge that does not list "x" as left, a
-- repeated down notification, a leave claim about somebody else, a reaper tick that is too early.
example : "x" ≠ upDemo.name ∧ statusOf upDemo "x" = some .alive ∧
    (∀ op ∈ [Op.joinMsg "x" 3 0, .merge 9 [("x", 4)] ["y"] 0, .nodeLeave "x" 2, .leaveMsg "y" 7 false 0,
        .reap 5 (fun _ t => t)], op ≠ .nodeJoin "x") ∧
    (∀ op ∈ [Op.joinMsg "x" 3 0, .merge 9 [("x", 4)] ["y"] 0, .nodeLeave "x" 2, .leaveMsg "y" 7 false 0,
        .reap 5 (fun _ t => t)], isLeaveClaimAbout "x" op = false) ∧
    KeptAlong (step upDemo (.nodeLeave "x" 1)).1 [.joinMsg "x" 3 0, .merge 9 [("x", 4)] ["y"] 0, .nodeLeave "x" 2,
        .leaveMsg "y" 7 false 0, .reap 5 (fun _ t => t)] "x" :=
  ⟨by decide +kernel, by decide +kernel, fun op h e => by subst e; simp at h, by decide +kernel,
    keptAlong_of_B _ _ _ (by decide +kernel)⟩

/-- a failed member that the operator force-leaves (RemoveFailedNode: the claim carries the
local Lamport clock) is listed as left -/
theorem C01_forceleft_left (n : Node) (x : Name) (t w : Nat) (h : statusOf n x = some .failed)
    (hx : x ≠ n.name) (ht : ltimeOf n x = some t) (hlt : t < n.clock) :
    statusOf (step n (.forceLeave x false w)).1 x = some .left :=
  failed_newer_leave_left { n with clock := (n.clock + 1) % two64 } x t n.clock w h hx ht hlt

/-- and so is a failed member about which a newer leave claim arrives by gossip (the force-leave
of another node) -/
theorem C01_newer_leave_left (n : Node) (x : Name) (t lt w : Nat) (h : statusOf n x = some .failed)
    (hx : x ≠ n.name) (ht : ltimeOf n x = some t) (hlt : t < lt) :
    statusOf (step n (.leaveMsg x lt false w)).1 x = some .left :=
  failed_newer_leave_left n x t lt w h hx ht hlt

/-- The observer after "x" joined and crashed. -/
def failedDemo : Node := run (Node.init "a" {}) [.nodeJoin "x", .nodeLeave "x" 1]

example : statusOf failedDemo "x" = some .failed ∧ "x" ≠ failedDemo.name ∧ ltimeOf failedDemo "x" = some 0 ∧
    0 < failedDemo.clock ∧ (0 : Nat) < 3 := by decide +kernel

/-- the tie `rejoined-stuck-leaving`: "x" left at Lamport time 5 and restarted; memberlist
announces it; a merge with a peer that still lists "x" as left (status time 5) creates a leave
claim at 6; the restarted member's own join intent also carries 6, is not newer, and changes
nothing: the observer lists a running member as leaving -/
theorem C01_running_alive_counterexample :
    statusOf (run (Node.init "a" {}) [.nodeJoin "x", .leaveMsg "x" 5 false 0, .nodeLeave "x" 0, .nodeJoin "x",
      .merge 6 [("x", 5)] ["x"] 0, .joinMsg "x" 6 0]) "x" = some .leaving := by decide +kernel

/-! ### the reaper lists never cost a running member its entry

A member that memberlist reports up is listed alive or leaving, hence (bookkeeping invariant, C15)
on neither reaper list, hence never erased by the reaper — after EVERY history, in particular after
failed → left (force-leave) → rejoin, where `handleNodeJoin` must scrub BOTH lists (seeded change
C01-a scrubs only one and the rejoined member is reaped while alive). -/

theorem C01_alive_never_reaped (name : Name) (cfg : Config) (ops : List Op) (x : Name) (now : Nat)
    (ov : Name → Nat → Nat)
    (hs : statusOf (run (Node.init name cfg) ops) x = some .alive ∨ statusOf (run (Node.init name cfg) ops) x = some .leaving) :
    statusOf (step (run (Node.init name cfg) ops) (.reap now ov)).1 x = statusOf (run (Node.init name cfg) ops) x := by
  have h := SerfProofs.C15.C15_reaper_spares_unlisted _ now ov
    (SerfProofs.C15.C15_inv_run _ ops (SerfProofs.C15.C15_inv_init name cfg)) x hs
  simp only [step, statusOf, h]

/-- the C01-a history: x fails, is force-left (failed → left), comes back, and survives every later reaper tick -/
example : statusOf (run (Node.init "a" {}) [.nodeJoin "x", .nodeLeave "x" 0, .leaveMsg "x" 4 false 0,
    .nodeJoin "x", .reap 100000 (fun _ t => t), .reap 200000 (fun _ _ => 0)]) "x" = some .alive := by decide +kernel
example : (run (Node.init "a" {}) [.nodeJoin "x", .nodeLeave "x" 0, .leaveMsg "x" 4 false 0, .nodeJoin "x"]).failed = [] ∧
    (run (Node.init "a" {}) [.nodeJoin "x", .nodeLeave "x" 0, .leaveMsg "x" 4 false 0, .nodeJoin "x"]).left = [] := by decide +kernel

/-! ### Serf adds no divergence on top of a truthful memberlist and a completed anti-entropy round

Cluster form of the claim, over `SerfModel.Cluster`: take ANY reachable cluster state (any scenario of
joins, leaves, crashes, restarts-as-rejoins, force-leaves, partitions = lost / delayed / duplicated
gossip and push/pulls) in which memberlist is truthful about x for the running nodes `R` (`UpView` /
`DownView`: ASSUMED — memberlist's own convergence), and let one complete anti-entropy round run
(`syncRound`).  Then the Serf views agree and match the truth, except in the explicitly excluded,
decidable classes, each shown necessary by a counterexample (see Props/C02.lean, "the agreement clause
at the property's full statement"): `NoTie` (recorded finding rejoined-stuck-leaving and the
unrefuted claim), a leave older than a join known elsewhere (`stale_left_counterexample`), the
clock wrap. -/

section Converged
open SerfModel.Cluster SerfProofs.Cluster SerfProofs.ClusterSync

/-- every running member is listed alive by every running member that lists it, after healing -/
theorem C01_converged_running_partial (names : List Name) (cfg : Config) (steps : List CStep) (R : List Nat)
    (x : Name) (w : Nat) (hu : UpView (crun (Cluster.init names cfg) steps) R x)
    (ht : NoTie (crun (Cluster.init names cfg) steps) R x) :
    ∀ i ∈ R, ∀ n', (syncRound (crun (Cluster.init names cfg) steps) R w).nodes[i]? = some n' →
      ∀ s, statusOf n' x = some s → s = .alive :=
  fun i hi n' hn' s hs => (agreement_running _ R x w (allBook_crun names cfg steps) hu ht i hi n' hn' s hs).1

/-- a member that left gracefully (somebody holds its leave, newer than every join known) is listed left by all -/
theorem C01_converged_left_partial (names : List Name) (cfg : Config) (steps : List CStep) (R : List Nat)
    (x : Name) (w : Nat) (hd : DownView (crun (Cluster.init names cfg) steps) R x)
    (hl : SomeLeftAtMax (crun (Cluster.init names cfg) steps) R x)
    (hw : maxLtime (crun (Cluster.init names cfg) steps) R x < two64 - 1) :
    ∀ i ∈ R, ∀ n', (syncRound (crun (Cluster.init names cfg) steps) R w).nodes[i]? = some n' →
      ∀ s, statusOf n' x = some s → s = .left :=
  agreement_left _ R x w (allBook_crun names cfg steps) hd hl hw

/-- a crashed member (nobody holds a leave for it) is listed failed by all -/
theorem C01_converged_failed (names : List Name) (cfg : Config) (steps : List CStep) (R : List Nat)
    (x : Name) (w : Nat) (hd : DownView (crun (Cluster.init names cfg) steps) R x)
    (hn : NobodyLeft (crun (Cluster.init names cfg) steps) R x) :
    ∀ i ∈ R, ∀ n', (syncRound (crun (Cluster.init names cfg) steps) R w).nodes[i]? = some n' →
      ∀ s, statusOf n' x = some s → s = .failed :=
  fun i hi n' hn' s hs => (agreement_failed _ R x w (allBook_crun names cfg steps) hd hn i hi n' hn' s hs).1

example : UpView healC [0, 1, 2] "x" ∧ NoTie healC [0, 1, 2] "x" := ⟨running_example.2.1, running_example.2.2.1⟩
example : DownView leftC [0, 1] "x" ∧ SomeLeftAtMax leftC [0, 1] "x" := ⟨left_example.2.1, left_example.2.2.1⟩
example : DownView failC [0, 1] "x" ∧ NobodyLeft failC [0, 1] "x" := ⟨failed_example.2.1, failed_example.2.2.1⟩

end Converged

/-! ### a graceful leaver that goes down is left — however memberlist words the death

`handleNodeLeave` switches on the member's Serf status only; whether memberlist reports the node gone as
StateLeft (its own leave notice arrived) or StateDead (the notice was lost and the failure detector
declared it dead) is not an input of the transition — the model's `nodeLeave` op carries no such
parameter, and the harness delivers both wordings (`nl … d|l`).  Seeded change C01-e (leaving + StateDead
⇒ failed) is the broken shape. -/

theorem C01_leaving_down_left (n : Node) (x : Name) (at_ : Nat) (h : statusOf n x = some .leaving) :
    statusOf (step n (.nodeLeave x at_)).1 x = some .left :=
  (down_step n x at_).2 h

/-- the broken shape on the model: treating the death of a `leaving` member as a failure puts a graceful
leaver on the failed list -/
theorem C01_leaving_down_failed_counterexample :
    let n := run (Node.init "a" {}) [.nodeJoin "x", .leaveMsg "x" 3 false 0]
    statusOf n "x" = some .leaving ∧ statusOf (step n (.nodeLeave "x" 1)).1 "x" = some .left ∧
    -- what C01-e computes instead: the alive branch
    statusOf (step { n with members := ainsert n.members "x" { status := .alive, ltime := 3 } } (.nodeLeave "x" 1)).1 "x"
      = some .failed := by decide +kernel

end SerfProofs.C01
