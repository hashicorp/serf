/-
C24 — RPC commands take effect only after handshake and authentication.

Model: `SerfModel.IpcGate` (cmd/serf/command/agent/ipc.go: handleClient,
handleRequest, handleHandshake, handleAuth and the request decoding of every other
handler).  The input of a connection is the sequence of msgpack OBJECTS the client
writes; the msgpack decoder is a parameter `cd : Codec Obj`, so every theorem holds
for every decoder behaviour (absent fields keeping their previous value in the
reused header variable, arrays decoded positionally, nil zeroing the struct, …),
every agent key and every object sequence — including bodies that are decoded as
headers after an auth rejection, truncated input and bodies valid for another command.
-/
import SerfProofs.Lemmas.IpcGate
import SerfModel.Gen.IpcGate
namespace SerfProofs.C24
open SerfModel SerfModel.IpcGate SerfProofs.IpcGate

/-- The scan form of the property holds for every object sequence. -/
theorem C24_scan {Obj : Type} (cd : Codec Obj) (key : String) (objs : List Obj) :
    gateOK (key != "") false false (run cd key objs) = true :=
  (runFrom_passes cd key objs {} (ready_of_header rfl)).1

/-- Only the configured key is ever accepted. -/
theorem C24_auth_only_with_key {Obj : Type} (cd : Codec Obj) (key : String) (objs : List Obj)
    (p : String) (h : Out.auth p true ∈ run cd key objs) : p = key :=
  (runFrom_passes cd key objs {} (ready_of_header rfl)).2 p h

/-- **C24, gate.**  For every decoder, key and object sequence: whatever takes effect
or returns data (anything except an error/plain reply and the handshake itself) is
preceded by a successful handshake; and when a key is configured, every command
effect and every reply carrying data is preceded by an authentication that
presented exactly the configured key. -/
theorem C24_gate {Obj : Type} (cd : Codec Obj) (key : String) (objs : List Obj)
    (pre post : List Out) (o : Out) (h : run cd key objs = pre ++ o :: post) :
    (o.isEffect = true → Out.handshakeOk ∈ pre) ∧
    (key ≠ "" → o.isGuarded = true → Out.auth key true ∈ pre) := by
  have hscan := C24_scan cd key objs
  rw [h] at hscan
  obtain ⟨h1, h2⟩ := gateOK_split hscan
  refine ⟨fun ho => (h1 ho).resolve_left Bool.false_ne_true, fun hk ho => ?_⟩
  obtain ⟨p, hp⟩ := (h2 ho (by simpa using hk)).resolve_left Bool.false_ne_true
  exact C24_auth_only_with_key cd key objs p (h ▸ List.mem_append_left _ hp) ▸ hp

theorem runFrom_append {Obj : Type} (cd : Codec Obj) (key : String) (a b : List Obj) (s : St) :
    runFrom cd key s (a ++ b) =
      ((runFrom cd key (runFrom cd key s a).1 b).1, (runFrom cd key s a).2 ++ (runFrom cd key (runFrom cd key s a).1 b).2) := by
  induction a generalizing s with
  | nil => simp [runFrom]
  | cons o a ih => simp [runFrom, ih, List.append_assoc]

/-- **C24, rejected commands get an error reply.**  Whenever an object is decoded as
a request header `h` while the gate rejects it (no handshake yet, or key configured
and not yet authenticated), the connection's only reaction to that object is the
error reply carrying `h.seq` — nothing takes effect, no data — and the reply is part
of the connection's output. -/
theorem C24_rejected_reply {Obj : Type} (cd : Codec Obj) (key : String) (pre post : List Obj) (o : Obj)
    (h : Hdr) (e : Err)
    (hopen : (stateAfter cd key pre).closed = false) (hmode : (stateAfter cd key pre).mode = .header)
    (hdec : cd.hdr (stateAfter cd key pre).hdr o = some h)
    (hrej : rejects key (stateAfter cd key pre) h = some e) :
    (step cd key (stateAfter cd key pre) o).2 = [.reply h.seq e false] ∧ e ≠ .ok ∧
    Out.reply h.seq e false ∈ run cd key (pre ++ o :: post) := by
  have hstep : (step cd key (stateAfter cd key pre) o).2 = [.reply h.seq e false] ∧ e ≠ .ok := by
    unfold step
    simp only [hopen, hmode, hdec]
    exact onHeader_rejected hrej
  refine ⟨hstep.1, hstep.2, ?_⟩
  rw [run, runFrom_append]
  exact List.mem_append_right _ (List.mem_append_left _ (hstep.1 ▸ List.mem_singleton_self _))

/-- After the handshake gate (or any decode error) closed the connection nothing more happens. -/
theorem C24_closed_silent {Obj : Type} (cd : Codec Obj) (key : String) (objs : List Obj) (s : St)
    (hc : s.closed = true) : runFrom cd key s objs = (s, []) := by
  induction objs with
  | nil => simp [runFrom]
  | cons o rest ih => simp [runFrom, step, hc, ih]

/-- **C24, plain reading.**  A non-error reply — and any reply carrying data — is preceded by a
successful handshake; when a key is configured, the non-error reply of any command other than
handshake/auth (and any data) is preceded by an authentication with exactly that key.  So before the
handshake (and the key) a client sees error replies only. -/
theorem C24_replies_before_gates_are_errors {Obj : Type} (cd : Codec Obj) (key : String) (objs : List Obj)
    (pre post : List Out) (seq : Nat) (e : Err) (d : Bool) (h : run cd key objs = pre ++ Out.reply seq e d :: post) :
    ((e = .ok ∨ e = .handler ∨ d = true) → Out.handshakeOk ∈ pre) ∧
    (key ≠ "" → (e = .handler ∨ d = true) → Out.auth key true ∈ pre) := by
  obtain ⟨h1, h2⟩ := C24_gate cd key objs pre post _ h
  constructor
  · intro hc
    apply h1
    rcases hc with rfl | rfl | rfl <;> simp [Out.isEffect]
  · intro hk hc
    apply h2 hk
    rcases hc with rfl | rfl <;> simp [Out.isGuarded]

/-! ### Tie to the source: regenerated shapes of ipc.go (`Gen/IpcGate.lean`)

Each obligation connects a fact extracted from the current source with the corresponding
parameter of the hand model; an edit of the gate conditions, of what a gate replies or whether it
closes the connection, of the order of checks in `handleHandshake` (seeded C24-a), of the key
comparison in `handleAuth` (seeded C24-b), of the version constants or of the dispatch table
breaks one of them. -/

/-- the two gates of `handleRequest`: condition text, error replied, and that the handshake gate
closes the connection (`onHeader`: `closed := true`) while the auth gate does not; unknown
commands are answered and the connection closed -/
theorem C24_src_gates :
    Gen.IpcGate.handshakeGate = canonicalHandshakeGate ∧ Gen.IpcGate.authGate = canonicalAuthGate ∧
    Gen.IpcGate.unknownCommand = ("Unsupported command", true) ∧
    Gen.IpcGate.handshakeCommand = "handshake" ∧ Gen.IpcGate.authCommand = "auth" :=
  ⟨rfl, rfl, rfl, rfl, rfl⟩

theorem C24_src_versions :
    Gen.IpcGate.minIPCVersion = IpcGate.minIPCVersion ∧ Gen.IpcGate.maxIPCVersion = IpcGate.maxIPCVersion := ⟨rfl, rfl⟩

/-- `handleHandshake` checks the version range, then the duplicate, and assigns `client.version`
only in the final else; `handleAuth` compares the whole key with `==`: the extracted chains denote
the `good` shape -/
theorem C24_src_shape : shapeOf Gen.IpcGate.handshakeChain Gen.IpcGate.authChain = good := by
  have hs : Gen.IpcGate.handshakeChain = canonicalHandshakeChain := by decide +kernel
  have au : Gen.IpcGate.authChain = canonicalAuthChain := rfl
  rw [shapeOf, hs, au]
  simp [good]

/-- `client.version` and `client.didAuth` are written exactly once in ipc.go (in those two branches) -/
theorem C24_src_state_writes : Gen.IpcGate.versionWrites = 1 ∧ Gen.IpcGate.didAuthWrites = 1 := ⟨rfl, rfl⟩

/-- the dispatch switch agrees with the model's `cmdInfo` (which handler reads a body, which sends one) -/
theorem C24_src_dispatch :
    dispatchAgrees Gen.IpcGate.dispatch = true ∧ Gen.IpcGate.membersBodyGuard = "$command == \"members-filtered\"" :=
  ⟨by decide +kernel, rfl⟩

theorem onBodyV_good {Obj : Type} (cd : Codec Obj) (key : String) (s : St) (o : Obj) :
    onBodyV good cd key s o = onBody cd key s o := by
  simp [onBodyV, onBody, good, keyMatches]

theorem runFromV_good {Obj : Type} (cd : Codec Obj) (key : String) (objs : List Obj) (s : St) :
    runFromV good cd key s objs = runFrom cd key s objs := by
  induction objs generalizing s with
  | nil => simp [runFromV, runFrom]
  | cons o r ih =>
    have hstep : stepV good cd key s o = step cd key s o := by simp [stepV, step, onBodyV_good]
    simp [runFromV, runFrom, hstep, ih]

/-- **C24 for the shape the source has**: the gate property for the variant model instantiated
with the shapes extracted from the current ipc.go. -/
theorem C24_gate_for_source_shape {Obj : Type} (cd : Codec Obj) (key : String) (objs : List Obj) :
    gateOK (key != "") false false
      (runV (shapeOf Gen.IpcGate.handshakeChain Gen.IpcGate.authChain) cd key objs) = true := by
  rw [C24_src_shape]
  simp only [runV, runFromV_good]
  exact C24_scan cd key objs

/-! ### Non-vacuity: a tiny decoder where an object is a (string, number) pair -/

def toy : Codec (String × Nat) where
  hdr := fun prev o => some { cmd := if o.1 == "" then prev.cmd else o.1, seq := o.2 }
  version := fun o => some o.2
  authKey := fun o => some o.1
  body := fun _ o => some o.1

/-- handshake, a rejected `event` whose body `("leave", 9)` is then decoded as a header and
rejected too, a wrong key, the right key, then `leave` takes effect. -/
example : run toy "k" [("handshake", 1), ("x", 1), ("event", 2), ("leave", 9), ("auth", 3), ("bad", 0),
      ("auth", 4), ("k", 0), ("leave", 5)] =
    [.handshakeOk, .reply 1 .ok false, .reply 2 .authRequired false, .reply 9 .authRequired false,
     .auth "bad" false, .reply 3 .invalidToken false, .auth "k" true, .reply 4 .ok false,
     .effect "leave" "", .reply 5 .handler false] := by decide +kernel

/-- before the handshake: one error reply, connection closed -/
example : run toy "" [("event", 7), ("n", 0), ("handshake", 1), ("x", 1)] = [.reply 7 .handshakeRequired false] := by
  decide +kernel

/-- the hypotheses of `C24_rejected_reply` are satisfiable -/
example : (stateAfter toy "k" [("handshake", 1), ("x", 1)]).closed = false ∧
    (stateAfter toy "k" [("handshake", 1), ("x", 1)]).mode = .header ∧
    rejects "k" (stateAfter toy "k" [("handshake", 1), ("x", 1)]) ⟨"event", 2⟩ = some .authRequired := by decide +kernel

/-- the premise of `C24_gate` is met with a guarded element -/
example : ∃ pre post, run toy "k" [("handshake", 1), ("x", 1), ("auth", 4), ("k", 0), ("stats", 5)] =
    pre ++ Out.effect "stats" "" :: post ∧ (Out.effect "stats" "").isGuarded = true :=
  ⟨[.handshakeOk, .reply 1 .ok false, .auth "k" true, .reply 4 .ok false], [.reply 5 .handler true], by decide +kernel, rfl⟩

/-- `C24_replies_before_gates_are_errors` has instances with a non-error reply -/
example : ∃ pre post, run toy "k" [("handshake", 1), ("x", 1), ("auth", 4), ("k", 0), ("stats", 5)] =
    pre ++ Out.reply 5 .handler true :: post :=
  ⟨[.handshakeOk, .reply 1 .ok false, .auth "k" true, .reply 4 .ok false, .effect "stats" ""], [], by decide +kernel⟩

/-- **Regression witness (seeded C24-a)**: if `client.version` is assigned before the range check,
a handshake rejected for version 2 opens the gate — `stats` is executed and answered with data
without any successful handshake. -/
theorem C24_assign_before_check_counterexample :
    runV { hsAssignBeforeRangeCheck := true } toy "" [("handshake", 1), ("x", 2), ("stats", 5)] =
      [.reply 1 .unsupportedVersion false, .effect "stats" "", .reply 5 .handler true] ∧
    gateOK false false false
      (runV { hsAssignBeforeRangeCheck := true } toy "" [("handshake", 1), ("x", 2), ("stats", 5)]) = false := by decide +kernel

/-- **Regression witness (seeded C24-b)**: if the presented key is compared over its own length
only, the proper prefix "sek" of the key "sekret" authenticates. -/
theorem C24_prefix_key_counterexample :
    Out.auth "sek" true ∈ runV { authPrefixMatch := true } toy "sekret"
      [("handshake", 1), ("x", 1), ("auth", 3), ("sek", 0), ("stats", 5)] ∧
    Out.effect "stats" "" ∈ runV { authPrefixMatch := true } toy "sekret"
      [("handshake", 1), ("x", 1), ("auth", 3), ("sek", 0), ("stats", 5)] := by decide +kernel

/-- on the same inputs the source's shape rejects -/
example : runV good toy "" [("handshake", 1), ("x", 2), ("stats", 5)] =
    [.reply 1 .unsupportedVersion false, .reply 5 .handshakeRequired false] := by decide +kernel

example : runV good toy "sekret" [("handshake", 1), ("x", 1), ("auth", 3), ("sek", 0), ("stats", 5)] =
    [.handshakeOk, .reply 1 .ok false, .auth "sek" false, .reply 3 .invalidToken false, .reply 5 .authRequired false] := by decide +kernel

end SerfProofs.C24
