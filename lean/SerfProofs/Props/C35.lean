/-
C35 — Query reply relays go to distinct eligible peers.

Model: `SerfModel.Relay` (serf/query.go `kRandomMembers`, `relayResponse`).  The
random source is an oracle list `picks`; every theorem is for ALL oracle lists,
all member lists (duplicates, every status, every protocol version, self
included) and all relay factors.
-/
import SerfProofs.Lemmas.Relay
import SerfModel.Gen.RelayGuard
import SerfModel.Gen.RelayFilter
namespace SerfProofs.C35
open SerfModel SerfModel.Relay SerfProofs.Relay

/-- The selection never returns more than `k` members, never two with the same name, and only listed
members that the filter does not reject — for every filter, and whatever the probe budget. -/
theorem C35_select_any_budget (factor k : Nat) (ms : List Member) (filt : Member → Bool) (picks : List Nat) :
    (kRandomMembersG factor k ms filt picks).length ≤ k ∧
    ((kRandomMembersG factor k ms filt picks).map (·.name)).Nodup ∧
    ∀ m ∈ kRandomMembersG factor k ms filt picks, m ∈ ms ∧ filt m = false :=
  selectLoop_inv k ms filt (factor * ms.length) picks [] (by simp [Relay.Inv])

/-- … in particular for `kRandomMembers`, whose probe budget is three times the member count. -/
theorem C35_select_filter (k : Nat) (ms : List Member) (filt : Member → Bool) (picks : List Nat) :
    let r := kRandomMembers k ms filt picks
    r.length ≤ k ∧ (r.map (·.name)).Nodup ∧ ∀ m ∈ r, m ∈ ms ∧ filt m = false :=
  C35_select_any_budget 3 k ms filt picks

/-- **Selection with the relay filter**: at most `k`, distinct names, each a listed
member that is alive, speaks protocol ≥ 5 and is not the node itself. -/
theorem C35_select (k : Nat) (ms : List Member) (picks : List Nat) (self : String) :
    let r := kRandomMembers k ms (ineligible self) picks
    r.length ≤ k ∧ (r.map (·.name)).Nodup ∧
      ∀ m ∈ r, m ∈ ms ∧ m.status = statusAlive ∧ 5 ≤ m.protoMax ∧ m.name ≠ self := by
  obtain ⟨h1, h2, h3⟩ := C35_select_filter k ms (ineligible self) picks
  refine ⟨h1, h2, ?_⟩
  intro m hm
  obtain ⟨hin, hf⟩ := h3 m hm
  simp only [ineligible, Bool.or_eq_false_iff, bne_eq_false_iff_eq, decide_eq_false_iff_not,
    beq_eq_false_iff_ne, ne_eq] at hf
  exact ⟨hin, hf.1.1, by omega, hf.2⟩

/-- **Gate**: nothing is relayed when fewer than `k+1` members are known. -/
theorem C35_gate (k : Nat) (ms : List Member) (self : String) (picks : List Nat)
    (h : ms.length < k + 1) : relayTargets k ms self picks = [] := by
  simp [relayTargets, h]

/-- Relay factor 0 relays nothing. -/
theorem C35_zero (ms : List Member) (self : String) (picks : List Nat) :
    relayTargets 0 ms self picks = [] := by
  simp [relayTargets]

/-- **What `relayResponse` relays through**, for every member list, relay factor and
random choices. -/
theorem C35_relay (k : Nat) (ms : List Member) (picks : List Nat) (self : String) :
    (relayTargets k ms self picks).length ≤ k ∧
    ((relayTargets k ms self picks).map (·.name)).Nodup ∧
    (∀ m ∈ relayTargets k ms self picks,
        m ∈ ms ∧ m.status = statusAlive ∧ 5 ≤ m.protoMax ∧ m.name ≠ self) ∧
    (relayTargets k ms self picks ≠ [] → k + 1 ≤ ms.length) := by
  unfold relayTargets
  by_cases hk : k = 0
  · simp [hk]
  · by_cases hl : ms.length < k + 1
    · simp [hk, hl]
    · simp only [hk, hl, if_false]
      obtain ⟨h1, h2, h3⟩ := C35_select k ms picks self
      exact ⟨h1, h2, h3, fun _ => by omega⟩

/-- **The reply's destinations**: the origin exactly once, first, then at most `k`
relays (distinct, eligible, never the node itself — `C35_relay`). -/
theorem C35_sends (k : Nat) (ms : List Member) (picks : List Nat) (self : String) :
    (replySends k ms self picks).head? = some Dest.origin ∧
    (replySends k ms self picks).count Dest.origin = 1 ∧
    (replySends k ms self picks).length ≤ k + 1 := by
  obtain ⟨h1, _, _, _⟩ := C35_relay k ms picks self
  refine ⟨rfl, ?_, by simpa [replySends] using h1⟩
  simp only [replySends, List.count_cons_self]
  have : List.count Dest.origin ((relayTargets k ms self picks).map Dest.relay) = 0 := by
    rw [List.count_eq_zero]
    intro h
    obtain ⟨m, _, hm⟩ := List.mem_map.mp h
    exact Dest.noConfusion hm
  omega

/-- **The guard as it is in the source** (regenerated from serf/query.go on every run, Go integer typing
applied): relaying needs `k + 1` known members for EVERY relay factor a uint8 can hold — the addition
is carried out after the conversion to int and does not wrap at 255. -/
theorem C35_guard_gen : (∀ k, Gen.RelayGuard.minMembers k = k + 1) ∧ Gen.RelayGuard.zeroFactorReturns = true :=
  ⟨fun _ => rfl, rfl⟩

/-- … hence the gate/filter model the theorems above are about is the code's. -/
theorem C35_relay_gen (k : Nat) (ms : List Member) (self : String) (picks : List Nat) :
    relayTargetsG Gen.RelayGuard.minMembers Gen.RelayGuard.zeroFactorReturns k ms self picks =
      relayTargets k ms self picks := by
  unfold relayTargetsG relayTargets
  rw [C35_guard_gen.2]
  simp [C35_guard_gen.1]

/-- **The candidate filter as it is in the source** (regenerated table of atoms): a member is rejected
exactly when it is not alive, or its ProtocolMax is below 5, or it is the node itself — for every member
and every node name. -/
theorem C35_filter_gen (self : String) (m : Member) :
    rejectedBy Gen.RelayFilter.rejectAtoms self m = ineligible self m := by
  simp [rejectedBy, Gen.RelayFilter.rejectAtoms, FilterAtom.holds, ineligible, statusAlive, Bool.or_assoc]

/-- serf's member-status constants as regenerated; `StatusAlive` is the constant the model (and the filter's atom)
uses. -/
theorem C35_status_consts :
    Gen.RelayFilter.statusConsts =
      [("StatusNone", 0), ("StatusAlive", statusAlive), ("StatusLeaving", 2), ("StatusLeft", 3), ("StatusFailed", 4)] :=
  rfl

/-- **The probe loop as it is in the source**: `3·n` probes, stops at `k` selected, filter before the
duplicate test, duplicates recognised by `Name` — the loop `selectLoop` transcribes; and the model's
`kRandomMembers` is the generated budget's. -/
theorem C35_select_shape_gen :
    Gen.RelayFilter.selectShape.asModelled = true ∧
    (∀ k ms filt picks, kRandomMembersG Gen.RelayFilter.selectShape.probeFactor k ms filt picks = kRandomMembers k ms filt picks) :=
  ⟨by decide +kernel, fun _ _ _ _ => rfl⟩

/-- Regression witness: a filter that only rejects failed and left members (the table
`[.statusEq 4, .statusEq 3, .protoMaxLt 5, .nameIsSelf]`) lets a LEAVING member be chosen as relay. -/
theorem C35_filter_gone_only_counterexample :
    (kRandomMembers 1 [⟨"self", 1, 5, 0⟩, ⟨"a", 2, 5, 1⟩]
      (rejectedBy [.statusEq 4, .statusEq 3, .protoMaxLt 5, .nameIsSelf] "self") [1]).map (·.status) = [2] := by
  decide

/-- Regression witness: with the addition carried out in uint8 the gate is open at relay factor 255
(two members known, one relay chosen). -/
theorem C35_guard_uint8_wraps :
    (relayTargetsG (fun k => (k + 1) % 256) true 255 [⟨"self", 1, 5, 0⟩, ⟨"a", 1, 5, 1⟩] "self" [1]).map (·.tag) = [1] := by
  decide

-- Non-vacuity: a list with a duplicate name, a failed member, an old-protocol member
-- and the node itself; the oracle picks every index several times.
example :
    (relayTargets 2
      [⟨"self", 1, 5, 0⟩, ⟨"a", 1, 5, 1⟩, ⟨"a", 1, 5, 2⟩, ⟨"f", 4, 5, 3⟩, ⟨"old", 1, 4, 4⟩, ⟨"b", 1, 5, 5⟩]
      "self" [0, 3, 4, 2, 1, 2, 5, 1]).map (·.tag) = [2, 5] := by decide +kernel

-- the gate: two members known, relay factor 2 → nothing
example : relayTargets 2 [⟨"self", 1, 5, 0⟩, ⟨"a", 1, 5, 1⟩] "self" [1, 1, 1] = [] := by decide
-- … three known → relays
example : (relayTargets 2 [⟨"self", 1, 5, 0⟩, ⟨"a", 1, 5, 1⟩, ⟨"b", 1, 5, 2⟩] "self" [1, 0, 2]).map (·.tag) = [1, 2] := by decide

end SerfProofs.C35
