/-
C16 — Applications see each member's events in the order they happened.

Model: `SerfModel.Pipeline` (the stages `serf.Create` stacks: snapshot tee →
internal-query filter → user coalescer → member coalescer → EventCh), built from
the loop model of serf/coalesce.go and the coalescer models of C17/C18.

`emitted` is the history of events the handlers sent (they send under the member
lock, hence in the order the status changes happened); `sched` is an arbitrary
interleaving of: a handler sending the next event, any stage taking one event
from its queue, any timer firing, the shutdown being seen, the tee dropping.
-/
import SerfProofs.Lemmas.Pipeline
import SerfProofs.Lemmas.PipelineLast
import SerfProofs.Lemmas.PipelineDrain
import SerfModel.Gen.MemberLocks
import SerfModel.Gen.NodeShapes
import SerfProofs.Props.C17
import SerfProofs.Props.C18
namespace SerfProofs.C16
open SerfModel SerfModel.MemberCoalesce SerfModel.Pipeline SerfProofs.Pipeline

/-- **Per-member order.** For every configuration (snapshot on/off, user and member
coalescing on/off), every emitted history and every schedule, the member events the
application has received about any one member form a subsequence (`List.Sublist`) of
the events emitted about that member: nothing invented, nothing duplicated, nothing
reordered — at every moment, through every stage. -/
theorem C16_subsequence (cfg : Cfg) (emitted : List PEv) (sched : List Step) (m : String) :
    (about m (runPipeline cfg emitted sched).recv).Sublist (about m emitted) := by
  have h := (run_flat sched (initPipe cfg emitted) (stagesOf_ok cfg) m).1
  rw [flat_init] at h
  exact (List.sublist_append_left _ _).trans h

/-- The same holds for everything still in flight: received ++ in-flight (downstream
first, the member coalescer holding at most one event per member) ++ not yet emitted
is a subsequence of the emitted history, per member. -/
theorem C16_inflight_subsequence (cfg : Cfg) (emitted : List PEv) (sched : List Step) (m : String) :
    (flat m (runPipeline cfg emitted sched)).Sublist (about m emitted) := by
  have h := (run_flat sched (initPipe cfg emitted) (stagesOf_ok cfg) m).1
  rwa [flat_init] at h

/-- **Last event matches.** When nothing was lost (the tee never dropped and no coalescer
goroutine returned) and the pipeline is drained (everything emitted was sent, every queue is
empty, the member coalescer holds nothing), then for every member the kind of the last event
the application received equals the kind of the last event emitted for it — in every
configuration and for every schedule, including every placement of the coalescers' flushes
(an event the member coalescer suppresses has the kind of the one delivered last). -/
theorem C16_last_matches (cfg : Cfg) (emitted : List PEv) (sched : List Step) (m : String)
    (hloss : sched.all (fun x => !x.isLoss) = true)
    (hdr : (runPipeline cfg emitted sched).drained = true) :
    lastKind m (runPipeline cfg emitted sched).recv = lastKind m emitted := by
  have h : lastK (flat m (runPipeline cfg emitted sched)) = lastK (about m emitted) :=
    (inv_run m _ sched _ hloss (inv_init cfg emitted m)).1
  rwa [drained_flat hdr m] at h

/-- Without member coalescing nothing is ever held back or suppressed: drained and loss-free,
the application has received exactly the emitted events of every member, in order. -/
theorem C16_exact_without_coalescing (snap ucoal : Bool) (emitted : List PEv) (sched : List Step) (m : String)
    (hloss : sched.all (fun x => !x.isLoss) = true)
    (hdr : (runPipeline ⟨snap, ucoal, false⟩ emitted sched).drained = true) :
    about m (runPipeline ⟨snap, ucoal, false⟩ emitted sched).recv = about m emitted := by
  have hp : AllPass (initPipe ⟨snap, ucoal, false⟩ emitted).stages :=
    forall_stagesOf ⟨snap, ucoal, false⟩ nofun rfl trivial trivial
  have h : flat m (runPipeline ⟨snap, ucoal, false⟩ emitted sched) = flat m (initPipe _ emitted) :=
    (run_pass sched _ hp hloss m).1
  rwa [flat_init, drained_flat hdr m] at h

/-! ### No stale last word: the hypotheses of `C16_last_matches` are always attainable -/

/-- **The pipeline can always be drained.** After ANY loss-free schedule (any interleaving, any
flush placement, anything still in flight) there is a loss-free continuation — the handlers send
what is left, every stage takes what is queued (upstream first) and its quiescent timer fires —
after which nothing is in flight. -/
theorem C16_can_always_drain (cfg : Cfg) (emitted : List PEv) (sched : List Step)
    (hloss : sched.all (fun x => !x.isLoss) = true) :
    ∃ more : List Step, more.all (fun x => !x.isLoss) = true ∧
      (runPipeline cfg emitted (sched ++ more)).drained = true := by
  -- one quantum that takes in all that is left to emit
  have hr := run_ready sched (initPipe cfg emitted) (stagesOf_ready cfg) hloss
  refine ⟨quantumSteps (runPipeline cfg emitted sched) (runPipeline cfg emitted sched).todo.length,
    quantumSteps_lossless _ _, ?_⟩
  obtain ⟨h1, h2⟩ := quantumSteps_state _ (runPipeline cfg emitted sched).todo.length hr
  simp only [runPipeline, List.foldl_append, Pipe.drained, Bool.and_eq_true, List.isEmpty_iff] at h1 h2 ⊢
  exact ⟨by simpa using h1, h2⟩

/-- **No stale last word, end to end.** For every configuration, every history of events and every
loss-free schedule so far, letting the pipeline run dry leaves the application with, for EVERY
member, a last event whose kind is the kind of the latest event emitted for that member — through
tee, internal-query filter, user coalescer and member coalescer, whatever was suppressed or
merged on the way. -/
theorem C16_no_stale_last_word (cfg : Cfg) (emitted : List PEv) (sched : List Step)
    (hloss : sched.all (fun x => !x.isLoss) = true) :
    ∃ more : List Step, more.all (fun x => !x.isLoss) = true ∧
      ∀ m, lastKind m (runPipeline cfg emitted (sched ++ more)).recv = lastKind m emitted := by
  obtain ⟨more, h1, h2⟩ := C16_can_always_drain cfg emitted sched hloss
  refine ⟨more, h1, fun m => C16_last_matches cfg emitted (sched ++ more) m ?_ h2⟩
  simp only [List.all_append, Bool.and_eq_true]
  exact ⟨hloss, h1⟩

/-- **Every split into quanta.** Cut the history into consecutive quanta of ANY sizes `ns`
(`ns.sum = emitted.length`); per quantum the handlers send its events and the pipeline runs dry
(so the coalescers flush once per quantum).  Then for every member the last event delivered has
the kind of the latest event of the whole history. -/
theorem C16_quanta_last_word (cfg : Cfg) (emitted : List PEv) (ns : List Nat) (hsum : ns.sum = emitted.length)
    (m : String) :
    lastKind m (runPipeline cfg emitted (quantaSched (initPipe cfg emitted) ns)).recv = lastKind m emitted :=
  C16_last_matches cfg emitted _ m (quantaSched_lossless _ ns)
    (quantaSched_drained (initPipe cfg emitted) ns (stagesOf_ready cfg) (stagesOf_idle cfg) hsum)

/-! ### Tie of the premise "emitted history = order of the status changes" to the source

The theorems above take the emitted history as given.  It is ordered like the status changes of
each member exactly when every handler applies the change and sends the event inside ONE
exclusive critical section of `memberLock`.  `SerfModel.Gen.MemberLocks.handlers` is regenerated
from serf/*.go on every run (extract/memberlocks.go): for every method of `*Serf` that sends a
MemberEvent on `s.config.EventCh`, and every method through which such a method is reached
without locking, how it uses memberLock. -/

/-- Both facts about the regenerated table, by one evaluation in the kernel. -/
theorem sends_under_lock :
    SerfModel.MemberLocks.allSendsUnderLock SerfModel.Gen.MemberLocks.handlers = true ∧
    (["handleNodeJoin", "handleNodeLeave", "handleNodeUpdate", "handleNodeLeaveIntent", "eraseNode"].all
      (SerfModel.MemberLocks.sendsUnderLock SerfModel.Gen.MemberLocks.handlers)) = true := by decide +kernel

/-- **Every MemberEvent is sent while memberLock is held exclusively**: by the sending method
itself (`Lock()` directly followed by `defer Unlock()`, memberLock not touched again, the send
after the lock and not in a `go`/closure), or — for `eraseNode`, reached through `handlePrune`
and `reap` — at every call site, inside the caller's section. -/
theorem C16_events_sent_under_member_lock :
    SerfModel.MemberLocks.allSendsUnderLock SerfModel.Gen.MemberLocks.handlers = true := sends_under_lock.1

/-- The four status handlers and `eraseNode` are the senders the fact is about (so a renamed or
split handler cannot make the previous theorem vacuous). -/
theorem C16_status_handlers_send_under_lock :
    (["handleNodeJoin", "handleNodeLeave", "handleNodeUpdate", "handleNodeLeaveIntent", "eraseNode"].all
      (SerfModel.MemberLocks.sendsUnderLock SerfModel.Gen.MemberLocks.handlers)) = true := sends_under_lock.2

-- the predicate is not vacuous: the shape of an early unlock before the send is rejected
example : SerfModel.MemberLocks.allSendsUnderLock
    [{ name := "handleNodeLeave", sends := 1, lockCall := "Lock", shape := "other", earlyUnlock := false,
       sendsInside := false, callSites := [] }] = false := by decide +kernel

/-- **Order of the events one handler call emits.**  A leave intent with the Prune flag that finds
the member `failed` makes two status changes in one call — failed→left, then erased — and so
emits two events.  In the source's `case StatusFailed` the `EventMemberLeave` send comes BEFORE
`s.handlePrune(member)` (whose last statement is `s.eraseNode(member)`, the sender of
`EventMemberReap`), and nothing but `return true` follows: the emitted history is
…, leave, reap — the order of the status changes, which is what the pipeline theorems take as
their input (the harness emits exactly this history for the `prune` / `forceprune` ops). -/
-- (Gen.NodeShapes is alpha-normalised: recv = s, p0 = leaveMsg (handlePrune: p0 = member), v1 = member)
theorem C16_leave_is_sent_before_prune_reaps :
    SerfModel.Gen.NodeShapes.leaveCaseFailed =
      ["v1.Status = StatusLeft",
       "recv.failedMembers = removeOldMember(recv.failedMembers, v1.Name)",
       "recv.leftMembers = append(recv.leftMembers, v1)",
       -- (1) the leave of the failed→left change …
       "if recv.config.EventCh != nil { recv.config.EventCh <- MemberEvent{Type: EventMemberLeave, Members: []Member{v1.Member}} }",
       -- (2) … then the prune, whose eraseNode sends the reap
       "if p0.Prune { recv.handlePrune(v1) }",
       "return true"] ∧
    SerfModel.Gen.NodeShapes.handlePruneStmts.getLast? = some "recv.eraseNode(p0)" ∧
    -- the other cases send nothing themselves: their only event is the reap of the prune
    SerfModel.Gen.NodeShapes.leaveCaseAlive =
      ["v1.Status = StatusLeaving", "if p0.Prune { recv.handlePrune(v1) }", "return true"] ∧
    SerfModel.Gen.NodeShapes.leaveCaseLeavingLeft = ["if p0.Prune { recv.handlePrune(v1) }", "return true"] :=
  ⟨rfl, rfl, rfl, rfl⟩

/-- The coalescer stages of the pipeline model are the source's: the member coalescer stores
unconditionally and suppresses by the source's guard (C17 ties), and both coalescer stages run
the source's `coalesceLoop` (C18 tie) — so an edit to serf/coalesce_member.go or serf/coalesce.go
reaches this property's obligations as well. -/
theorem C16_coalescer_stages_are_the_source :
    (∀ last out e, SerfModel.CoalesceShapes.runM SerfModel.Gen.Coalescers.memberFlushBody last out e =
        some (if suppressed last e then (last, out) else (ainsert last e.name e.kind, out ++ [e]))) ∧
    SerfModel.Gen.Coalescers.memberCoalesceBody = .act "store" .done ∧
    SerfModel.Gen.Coalescers.loopFlush = ["p5.Flush(p1)", "if !v2 { goto INGEST }"] :=
  ⟨SerfProofs.C17.C17_flush_body_is_source_program, SerfProofs.C17.C17_coalesce_stores_unconditionally.2,
   SerfProofs.C18.C18_loop_shape.2.2.2.2.1⟩

-- a run through all four stages with coalescing, a drop and a suppression
example :
    (runPipeline ⟨true, true, true⟩
      [.member ⟨.join, "a", 1⟩, .member ⟨.join, "b", 2⟩, .query true 7, .member ⟨.failed, "a", 3⟩,
       .member ⟨.join, "a", 4⟩, .member ⟨.update, "b", 5⟩]
      [.emit, .emit, .emit, .at 3 .take, .at 3 .take, .at 3 .take, .at 2 .take, .at 2 .take, .at 2 .take,
       .at 1 .take, .at 1 .take, .at 0 .take, .at 0 .take, .at 0 .quiescent,
       .emit, .emit, .emit, .at 3 .take, .at 3 .take, .at 3 .drop, .at 2 .take, .at 2 .take, .at 1 .take, .at 1 .take,
       .at 0 .take, .at 0 .take, .at 0 .quantum]).recv
    = [.member ⟨.join, "a", 1⟩, .member ⟨.join, "b", 2⟩] := by decide +kernel

-- C16_last_matches: a loss-free schedule that drains, with a coalesced flap and a suppression
example :
    let sched : List Step :=
      [.emit, .emit, .at 2 .take, .at 2 .take, .at 1 .take, .at 1 .take, .at 0 .take, .at 0 .take, .at 0 .quantum,
       .emit, .emit, .emit, .at 2 .take, .at 2 .take, .at 2 .take, .at 1 .take, .at 1 .take, .at 1 .take,
       .at 0 .take, .at 0 .take, .at 0 .take, .at 0 .quiescent]
    let emitted : List PEv :=
      [.member ⟨.join, "a", 1⟩, .member ⟨.join, "b", 2⟩, .member ⟨.failed, "a", 3⟩, .member ⟨.join, "a", 4⟩,
       .member ⟨.leave, "b", 5⟩]
    sched.all (fun x => !x.isLoss) = true ∧ (runPipeline ⟨true, false, true⟩ emitted sched).drained = true ∧
      (runPipeline ⟨true, false, true⟩ emitted sched).recv =
        [.member ⟨.join, "a", 1⟩, .member ⟨.join, "b", 2⟩, .member ⟨.leave, "b", 5⟩] := by decide +kernel

-- the loss-freedom hypothesis is needed: one drop at the tee and the last events differ
example :
    lastKind "a" (runPipeline ⟨true, false, false⟩ [.member ⟨.join, "a", 1⟩, .member ⟨.failed, "a", 2⟩]
      [.emit, .emit, .at 1 .take, .at 1 .drop, .at 0 .take]).recv = some .join ∧
    (runPipeline ⟨true, false, false⟩ [.member ⟨.join, "a", 1⟩, .member ⟨.failed, "a", 2⟩]
      [.emit, .emit, .at 1 .take, .at 1 .drop, .at 0 .take]).drained = true := by decide +kernel

-- C16_quanta_last_word on a concrete history, split 2+0+3, all stages on: a flap merged, a repeat suppressed
example :
    (runPipeline ⟨true, true, true⟩
        [.member ⟨.join, "a", 1⟩, .member ⟨.join, "b", 2⟩, .member ⟨.failed, "a", 3⟩, .member ⟨.join, "a", 4⟩,
         .member ⟨.leave, "b", 5⟩]
        (quantaSched (initPipe ⟨true, true, true⟩
          [.member ⟨.join, "a", 1⟩, .member ⟨.join, "b", 2⟩, .member ⟨.failed, "a", 3⟩, .member ⟨.join, "a", 4⟩,
           .member ⟨.leave, "b", 5⟩]) [2, 0, 3])).recv
      = [.member ⟨.join, "a", 1⟩, .member ⟨.join, "b", 2⟩, .member ⟨.leave, "b", 5⟩] := by decide +kernel

-- "loss-free" cannot be dropped from C16_last_matches for the shutdown case either: a member
-- coalescer that returned (shutdown) swallows what is sent to it afterwards
example :
    let emitted : List PEv := [.member ⟨.join, "a", 1⟩, .member ⟨.failed, "a", 2⟩]
    let sched : List Step := [.emit, .at 1 .take, .at 0 .take, .at 0 .shutdown, .emit, .at 1 .take, .at 0 .take]
    (runPipeline ⟨false, false, true⟩ emitted sched).drained = true ∧
      lastKind "a" (runPipeline ⟨false, false, true⟩ emitted sched).recv = some .join ∧
      lastKind "a" emitted = some .failed := by decide +kernel

-- "drained" cannot be dropped: while the coalescer still holds the newer event the last word is old
example :
    let emitted : List PEv := [.member ⟨.join, "a", 1⟩, .member ⟨.failed, "a", 2⟩]
    let sched : List Step := [.emit, .at 1 .take, .at 0 .take, .at 0 .quantum, .emit, .at 1 .take, .at 0 .take]
    sched.all (fun x => !x.isLoss) = true ∧
      (runPipeline ⟨false, false, true⟩ emitted sched).drained = false ∧
      lastKind "a" (runPipeline ⟨false, false, true⟩ emitted sched).recv = some .join := by decide +kernel

end SerfProofs.C16
