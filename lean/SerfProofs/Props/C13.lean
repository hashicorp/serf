/-
C13 — A graceful leave is remembered across restarts.

Model: `SerfModel.Snapshot` (`step … .leave`, `applyLine … .leave`, `compact`).

`C13_no_rejoin_partial` / `C13_rejoin_set_partial`: for every history `pre`, a leave, every
history `post` (member/user/query events — ignored after the leave —, clock ticks, flush
timing, forced compactions, further leaves), every threshold and every map order:
after shutdown a restart recovers an EMPTY rejoin set when rejoin-after-leave is off,
and exactly the alive map the node had at the moment of the leave when it is on.
They are partial only in `WFEv` (member names without newline, see C10's finding
`name-with-newline`); for the rejoin-on case that hypothesis is needed (the kept
alive map is written with the raw names: C10's witness followed by a leave is not recovered);
for the rejoin-off case it is believed unnecessary (the `leave` line resets whatever precedes
it — `C13_leave_line_forgets_partial` holds for every newline-terminated file, whatever its
lines parse to) but the whole-history proof below goes through the C10 invariant and
therefore assumes it.
-/
import SerfProofs.Lemmas.SnapshotCrash
import SerfModel.Gen.SnapshotLeave
namespace SerfProofs.C13
open SerfModel SerfModel.Snapshot SerfProofs.Snapshot

/-- rejoin-after-leave off: whatever was recorded before, after the `leave` line the
recovered rejoin set is empty and the clocks are zero. -/
theorem C13_leave_line_forgets_partial (x : Bytes) (hx : endsNL x = true) :
    replay false (x ++ printLine .leave) = {} := by
  rw [replay_append_line false x .leave hx trivial]; rfl

example : endsNL (printLine (.alive ['a'] ['1'])) = true := by decide

/-- rejoin-after-leave on: the `leave` line is ignored by replay. -/
theorem C13_leave_line_ignored_partial (x : Bytes) (hx : endsNL x = true) :
    replay true (x ++ printLine .leave) = replay true x := by
  rw [replay_append_line true x .leave hx trivial]; rfl

/-- a `clock:` line never changes the replayed rejoin set -/
theorem C13_clock_lines_keep_alive_partial (rj : Bool) (x : Bytes) (hx : endsNL x = true) (t : Nat) (ht : t < U64) :
    (replay rj (x ++ printLine (.clock t))).alive = (replay rj x).alive := by
  rw [replay_append_line rj x (.clock t) hx ht]; rfl

/-- **The leave step**: appending the `leave` line to a state whose memory alive map
has been emptied (rejoin off) or kept (rejoin on) re-establishes the invariant — also
when this append triggers a compaction (any threshold, any map order). -/
theorem C13_leave_step_partial (ord : Order) (hord : PermOrder ord) (s : Snap) (fs : FS) (d : Bytes)
    (hd : fs.main = some d) (hnl : endsNL (d ++ s.buf) = true) (hwf : WFRec s.mem)
    (hleaving : s.leaving = true)
    (hmem : MapEq (if s.rejoin then (replay s.rejoin (d ++ s.buf)).alive else []) s.mem.alive)
    (hclk : s.rejoin = true → ClocksEq (replay s.rejoin (d ++ s.buf)) s.mem) :
    Inv (appendLine ord s (printLine .leave)).1 (fs.applyAll (appendLine ord s (printLine .leave)).2) := by
  refine appendLine_line_inv ord hord s fs d .leave hd hnl hwf trivial ?_ ?_
  · cases hr : s.rejoin <;> rw [hr] at hmem <;> exact hmem
  · intro hj
    have hr : s.rejoin = true := hj.resolve_left (by rw [hleaving]; exact Bool.noConfusion)
    have := hclk hr
    rw [hr] at this ⊢
    exact this

/-- non-vacuity of `C13_leave_step_partial`'s hypotheses (fresh snapshotter that is told to leave) -/
example : let s : Snap := { leaving := true }
    endsNL (([] : Bytes) ++ s.buf) = true ∧ MapEq (if s.rejoin then (replay s.rejoin ([] ++ s.buf)).alive else []) s.mem.alive :=
  ⟨rfl, fun _ => rfl⟩

/-- **rejoin-after-leave on**: the recovered rejoin set is the alive map at the moment of the leave. -/
theorem C13_rejoin_set_partial (ord : Order) (hord : PermOrder ord) (mc : Nat) (pre post : List Ev) (clk : Nat)
    (hwf : ∀ e ∈ pre ++ (Ev.leave :: post), WFEv e) :
    MapEq (recover true (FS.applyAll {} (life ord true mc {} (pre ++ (Ev.leave :: post)) clk).2)).alive
      (run ord (Snap.init true mc).1 pre).1.alive := by
  have key := leave_generic ord hord (Snap.init true mc).1 _ (init_inv true mc) pre post clk hwf
  rw [init_rejoin] at key
  rw [life_fresh_fs]
  exact key

/-- **rejoin-after-leave off**: nothing is re-joined, whatever happened before or after the leave. -/
theorem C13_no_rejoin_partial (ord : Order) (hord : PermOrder ord) (mc : Nat) (pre post : List Ev) (clk : Nat)
    (hwf : ∀ e ∈ pre ++ (Ev.leave :: post), WFEv e) :
    (recover false (FS.applyAll {} (life ord false mc {} (pre ++ (Ev.leave :: post)) clk).2)).alive = [] := by
  have key := leave_generic ord hord (Snap.init false mc).1 _ (init_inv false mc) pre post clk hwf
  rw [init_rejoin] at key
  rw [life_fresh_fs]
  exact eq_nil_of_alookup_none _ (fun k => key k)

/-- non-vacuity: events before and after the leave -/
example : ∀ e ∈ [Ev.join [(['a'], ['1', ':', '2'])] 5] ++ (Ev.leave :: [Ev.join [(['b'], ['3'])] 6, .clockTick 9, .forceCompact]), WFEv e := by
  decide

/-! ## The order of the leave branch (regenerated tie)

`step … .leave` clears the rejoin set BEFORE it appends the `leave` line: that append may
be the one that crosses the compaction threshold, and `compact` writes what the alive map
holds at that moment. `SerfModel.Gen.SnapshotLeave` is regenerated on every run from the
`case <-s.leaveCh:` branch of `Snapshotter.stream()` and from the hook `VerifSnap.Leave()`
that repeats this branch for the synchronous lives of the harness. -/

open SerfModel.Gen.SnapshotLeave in
/-- The source branch has the statement order the model's `step … .leave` assumes. -/
theorem C13_gen_leave_branch_order :
    streamLeaveKinds = ["leaving", "clear-unless-rejoin", "append-leave", "flush", "sync"] := rfl

open SerfModel.Gen.SnapshotLeave in
/-- The hook copy used by the synchronous lives is, statement by statement, the source branch. -/
theorem C13_gen_leave_hook_is_source :
    hookLeaveBody = streamLeaveBranch ∧ hookLeaveKinds = streamLeaveKinds := ⟨rfl, rfl⟩

/-- The other order (append the `leave` line, THEN clear the rejoin set). -/
def leaveAppendFirst (ord : Order) (s : Snap) : Snap × List FsOp :=
  let r := appendLine ord { s with leaving := true } (printLine .leave)
  ({ r.1 with buf := [], alive := if s.rejoin then r.1.alive else [] }, r.2 ++ flushOps .main r.1.buf ++ [.sync .main])

def orderWitnessName : Name := List.replicate 250 'a'
def orderWitnessPre : List Ev := [.join [(orderWitnessName, ['1', ':', '2'])] 1]

/-- one join (262 bytes, threshold 262), the leave in the other order, shutdown -/
def orderWitnessLife : Snap × List FsOp :=
  let r0 := Snap.init false 262
  let r1 := run Order.id r0.1 orderWitnessPre
  let r2 := leaveAppendFirst Order.id r1.1
  let r3 := shutdown Order.id r2.1 1
  (r3.1, r0.2 ++ r1.2 ++ r2.2 ++ r3.2)

/-- The order is necessary: when the 6-byte `leave` line is the append that compacts, the
other order rewrites the file as alive lines + clocks, the marker is lost and a restart
re-joins; the order of the code (same history) recovers nothing. -/
theorem C13_leave_order_necessary :
    (recover false (FS.applyAll {} orderWitnessLife.2)).alive = [(orderWitnessName, ['1', ':', '2'])]
    ∧ (recover false (FS.applyAll {} (life Order.id false 262 {} (orderWitnessPre ++ [Ev.leave]) 1).2)).alive = [] := by
  decide +kernel

/-- **A stale compaction temp file is ignored while the snapshot exists**: whatever an earlier failed
compaction left in `<path>.compact` (`t`), a restart on a directory that still has the snapshot opens and
recovers exactly as if the temp file were not there — so the leave marker in the snapshot cannot be overridden
by an older compacted copy without it. -/
theorem C13_stale_tmp_ignored (rj : Bool) (mc : Nat) (fs : FS) (t : Option Bytes) (d : Bytes) (hd : fs.main = some d) :
    Snap.openOn rj mc { fs with tmp := t } = Snap.openOn rj mc fs ∧ recover rj { fs with tmp := t } = recover rj fs := by
  simp [Snap.openOn, recover, hd]

/-- **rejoin-after-leave off, with a stale temp file**: after ANY life containing a graceful leave, and whatever
a failed compaction may have left in `<path>.compact` (`t`), the restart re-joins nobody. -/
theorem C13_no_rejoin_stale_tmp_partial (ord : Order) (hord : PermOrder ord) (mc : Nat) (pre post : List Ev) (clk : Nat)
    (hwf : ∀ e ∈ pre ++ (Ev.leave :: post), WFEv e) (t : Option Bytes) :
    (recover false { FS.applyAll {} (life ord false mc {} (pre ++ (Ev.leave :: post)) clk).2 with tmp := t }).alive = [] := by
  obtain ⟨d, hmain⟩ := life_fresh_main ord false mc (pre ++ (Ev.leave :: post)) clk
  rw [(C13_stale_tmp_ignored false mc _ t d hmain).2]
  exact C13_no_rejoin_partial ord hord mc pre post clk hwf

end SerfProofs.C13
