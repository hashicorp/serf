/-
C02 — A member's status time only grows; an intent that is not newer changes nothing.
(per-step clauses in full; the cluster-level agreement clause under explicit hypotheses, with the
counterexamples to the full statement: the two agreement sections below the per-step theorems)

Model: `SerfModel.Node` (serf/serf.go, serf/delegate.go): one node's membership state machine.
`members` is the Go map `s.members`; `ltimeOf n x` is `s.members[x].statusLTime`, `statusOf n x`
the stored status.  `step n op` applies one input of any kind: memberlist notification
(join / leave / update), gossip intent (`NotifyMsg` with a messageJoin / messageLeave), push/pull
merge (`MergeRemoteState`, both loops), local Leave / force-leave / Join's own broadcast / the
spawned refuting join, Shutdown, one reaper tick.  `run` folds `step`.
Only the Lamport clock (`witness`) moves on a stale intent; the theorems say nothing about it.
-/
import SerfProofs.Lemmas.NodeSteps
import SerfProofs.Lemmas.NodeObserver
import SerfProofs.Lemmas.Cluster
import SerfProofs.Lemmas.ClusterSync
namespace SerfProofs.C02
open SerfModel SerfModel.Node SerfProofs.NodeBook SerfProofs.NodeSteps

/-- A run used by the witnesses below: "b" joins and announces its leave at Lamport time 4
(so it is recorded as leaving at 4); "c" joins and fails at wall time 3. -/
def demo : Node :=
  run (Node.init "self" {}) [.nodeJoin "b", .leaveMsg "b" 4 false 0, .nodeJoin "c", .nodeLeave "c" 3]

example : ltimeOf demo "b" = some 4 ∧ statusOf demo "b" = some .leaving ∧
    ltimeOf demo "c" = some 0 ∧ statusOf demo "c" = some .failed ∧ demo.failed = ["c"] := by decide +kernel

/-- status time only grows, at every step of every kind (gossip, merge, notifications, local ops, reaper) -/
theorem C02_ltime_monotone (n : Node) (op : Op) (x : Name) (t t' : Nat)
    (h : ltimeOf n x = some t) (h' : ltimeOf (step n op).1 x = some t') : t ≤ t' :=
  ltime_mono_step n op x t t' h h'

-- Witnesses: a gossip join, a push/pull (left list and status list), a force-leave.
example : ltimeOf demo "b" = some 4 ∧ ltimeOf (step demo (.joinMsg "b" 6 0)).1 "b" = some 6 := by decide +kernel
example : ltimeOf demo "c" = some 0 ∧
    ltimeOf (step demo (.merge 9 [("b", 2), ("c", 5)] ["c"] 0)).1 "c" = some 6 ∧
    ltimeOf (step demo (.merge 9 [("b", 2), ("c", 5)] ["c"] 0)).1 "b" = some 4 := by decide +kernel
example : ltimeOf (step demo (.forceLeave "c" false 0)).1 "c" = some 5 := by decide +kernel

/-- along a run during which the member is never forgotten (known after every prefix), its status
time at the end is at least its status time at the start -/
theorem C02_ltime_monotone_run (ops : List Op) : ∀ (n : Node) (x : Name) (t t' : Nat),
    (∀ k, k ≤ ops.length → known (run n (ops.take k)) x = true) →
    ltimeOf n x = some t → ltimeOf (run n ops) x = some t' → t ≤ t' := by
  induction ops with
  | nil =>
    intro n x t t' _ h h'
    rw [show run n [] = n from rfl, h] at h'
    cases h'
    exact Nat.le_refl _
  | cons op ops ih =>
    intro n x t t' hk h h'
    -- the member is still listed after the first step, so it has a status time there
    obtain ⟨m, hm⟩ := Option.isSome_iff_exists.mp (hk 1 (by simp))
    have h1 : ltimeOf (step n op).1 x = some m.ltime := ltimeOf_of_lookup hm
    exact Nat.le_trans (C02_ltime_monotone n op x t _ h h1)
      (ih (step n op).1 x _ t' (fun k hkl => hk (k + 1) (by simp; omega)) h1 h')

-- Witness: "b" stays known along the whole run and goes 4 → 4 → 6 → 6 → 6.
example : (∀ k, k ≤ 4 → known (run demo ([.joinMsg "b" 3 0, .leaveMsg "b" 6 false 0, .nodeLeave "b" 1, .nodeJoin "b"].take k)) "b" = true) ∧
    ltimeOf demo "b" = some 4 ∧
    ltimeOf (run demo [.joinMsg "b" 3 0, .leaveMsg "b" 6 false 0, .nodeLeave "b" 1, .nodeJoin "b"]) "b" = some 6 := by
  decide +kernel

/-- why the run statement needs "never forgotten": a member erased (here by a newer prune claim)
and announced again by memberlist restarts at 0 -/
theorem C02_rejoin_after_erase_restarts :
    ltimeOf demo "b" = some 4 ∧
    known (run demo [.leaveMsg "b" 5 true 0]) "b" = false ∧
    ltimeOf (run demo [.leaveMsg "b" 5 true 0, .nodeJoin "b"]) "b" = some 0 := by decide +kernel

/-- a join intent that is not newer than the recorded status time changes nothing about the member and is not re-queued -/
theorem C02_stale_join_noop (n : Node) (x : Name) (lt wall t : Nat) (h : ltimeOf n x = some t) (hs : lt ≤ t) :
    (handleJoinIntent n x lt wall).1.members = n.members ∧ (handleJoinIntent n x lt wall).1.failed = n.failed ∧
    (handleJoinIntent n x lt wall).1.left = n.left ∧ (handleJoinIntent n x lt wall).2.rebroadcast = false ∧
    (handleJoinIntent n x lt wall).2.events = [] := by
  obtain ⟨m, hm, rfl⟩ := ltimeOf_eq_iff.mp h
  rw [hji_stale wall hm hs]
  exact ⟨rfl, rfl, rfl, rfl, rfl⟩

-- Witness: a join at time 4 (equal) or 3 (older) about "b", recorded leaving at 4.
example : ltimeOf demo "b" = some 4 ∧ (4 : Nat) ≤ 4 := by decide +kernel
example : statusOf (handleJoinIntent demo "b" 4 0).1 "b" = some .leaving ∧
    statusOf (handleJoinIntent demo "b" 3 0).1 "b" = some .leaving := by decide +kernel

/-- same for a leave intent, with or without prune (so a stale prune does not erase); no refuting join is spawned -/
theorem C02_stale_leave_noop (n : Node) (x : Name) (lt wall t : Nat) (prune : Bool)
    (h : ltimeOf n x = some t) (hs : lt ≤ t) :
    (handleLeaveIntent n x lt prune wall).1.members = n.members ∧
    (handleLeaveIntent n x lt prune wall).1.failed = n.failed ∧
    (handleLeaveIntent n x lt prune wall).1.left = n.left ∧
    (handleLeaveIntent n x lt prune wall).2.rebroadcast = false ∧
    (handleLeaveIntent n x lt prune wall).2.events = [] ∧
    (handleLeaveIntent n x lt prune wall).1.pending = n.pending := by
  obtain ⟨m, hm, rfl⟩ := ltimeOf_eq_iff.mp h
  rw [hli_stale prune wall hm hs]
  exact ⟨rfl, rfl, rfl, rfl, rfl, rfl⟩

-- Witness: a prune claim at time 4 about "b" (recorded at 4) does not erase it; the same claim at 5 does.
example : ltimeOf demo "b" = some 4 ∧ (4 : Nat) ≤ 4 := by decide +kernel
example : known (handleLeaveIntent demo "b" 4 true 0).1 "b" = true ∧
    known (handleLeaveIntent demo "b" 5 true 0).1 "b" = false := by decide +kernel

/-- and through the gossip entry point: a `NotifyMsg` carrying a join / leave that is not newer
leaves the status of every member unchanged and is not re-queued -/
theorem C02_stale_intent_noop (n : Node) (op : Op) (m : Msg) (t : Nat) (hm : op.msg? = some m)
    (h : ltimeOf n m.node = some t) (hs : m.ltime ≤ t) :
    (∀ y, statusOf (step n op).1 y = statusOf n y) ∧ (step n op).2.rebroadcast = false := by
  cases op with
  | joinMsg x lt w =>
    simp only [Op.msg?, Option.some.injEq] at hm
    subst hm
    have := C02_stale_join_noop n x lt w t h hs
    exact ⟨fun y => statusOf_congr this.1 y, this.2.2.2.1⟩
  | leaveMsg x lt p w =>
    simp only [Op.msg?, Option.some.injEq] at hm
    subst hm
    have := C02_stale_leave_noop n x lt w t p h hs
    exact ⟨fun y => statusOf_congr this.1 y, this.2.2.2.1⟩
  | _ => simp [Op.msg?] at hm

-- Witness: the hypotheses hold for a stale leave-with-prune message about "b".
example : (Op.leaveMsg "b" 2 true 0).msg? = some (.leave "b" 2 true) ∧
    ltimeOf demo (Msg.leave "b" 2 true).node = some 4 ∧ (Msg.leave "b" 2 true).ltime ≤ 4 := by decide +kernel

/-- a NEWER join intent about a known member takes effect: the member gets that status time, a
leaving member becomes alive (any other status stays), nobody else is touched, the message is
re-queued -/
theorem C02_newer_join_applies (n : Node) (x : Name) (lt wall t : Nat) (h : ltimeOf n x = some t) (hn : t < lt) :
    ltimeOf (handleJoinIntent n x lt wall).1 x = some lt ∧
    statusOf (handleJoinIntent n x lt wall).1 x =
      (statusOf n x).map (fun s => if s = .leaving then .alive else s) ∧
    (∀ y, y ≠ x → alookup (handleJoinIntent n x lt wall).1.members y = alookup n.members y) ∧
    (handleJoinIntent n x lt wall).2.rebroadcast = true := by
  obtain ⟨m, hm, rfl⟩ := ltimeOf_eq_iff.mp h
  have hrec := hji_rec n x lt wall
  rw [hm, Option.map_some] at hrec
  refine ⟨?_, ?_, hji_lookup_ne n x lt wall, by rw [hji_newer wall hm hn]⟩
  · rw [ltimeOf, hrec, joinUpd_of_lt hn]; rfl
  · rw [statusOf, statusOf, hrec, hm, joinUpd_of_lt hn]; rfl

-- Witness: a join at time 6 about "b" (leaving at 4) makes it alive at 6; about "c" (failed at 0) it only moves the time.
example : ltimeOf demo "b" = some 4 ∧ (4 : Nat) < 6 := by decide +kernel
example : statusOf (handleJoinIntent demo "b" 6 0).1 "b" = some .alive ∧
    ltimeOf (handleJoinIntent demo "b" 6 0).1 "b" = some 6 ∧
    statusOf (handleJoinIntent demo "c" 6 0).1 "c" = some .failed ∧
    ltimeOf (handleJoinIntent demo "c" 6 0).1 "c" = some 6 := by decide +kernel

/-- The status a newer leave intent (without prune) gives a member. -/
def afterLeave : Status → Status
  | .alive => .leaving
  | .failed => .left
  | s => s

/-- a NEWER leave intent (no prune) about a known member other than the running local node takes
effect: the member gets that status time, alive becomes leaving, failed becomes left (leaving and
left stay), nobody else is touched, the message is re-queued -/
theorem C02_newer_leave_applies (n : Node) (x : Name) (lt wall t : Nat) (h : ltimeOf n x = some t) (hn : t < lt)
    (hself : ¬ (x = n.name ∧ n.life = .alive)) :
    ltimeOf (handleLeaveIntent n x lt false wall).1 x = some lt ∧
    statusOf (handleLeaveIntent n x lt false wall).1 x = (statusOf n x).map afterLeave ∧
    (∀ y, y ≠ x → alookup (handleLeaveIntent n x lt false wall).1.members y = alookup n.members y) ∧
    (handleLeaveIntent n x lt false wall).2.rebroadcast = true := by
  obtain ⟨m, hm, rfl⟩ := ltimeOf_eq_iff.mp h
  have hrec := hli_rec_other n x lt wall hself
  rw [hm, Option.map_some] at hrec
  refine ⟨?_, ?_, hli_lookup_ne n x lt false wall, by rw [hli_newer false wall hm hn hself]⟩
  · rw [ltimeOf, hrec, leaveUpd_of_lt hn]; rfl
  · rw [statusOf, statusOf, hrec, hm, leaveUpd_of_lt hn]
    show some (NodeSteps.afterLeave m.status) = some (afterLeave m.status)
    cases m.status <;> rfl

/-- the local node while it is running is the exception: a newer leave claim about it does not
change its record; it spawns the refuting join instead -/
theorem C02_newer_leave_about_running_self_refutes (n : Node) (lt wall t : Nat) (prune : Bool)
    (h : ltimeOf n n.name = some t) (hn : t < lt) (hlife : n.life = .alive) :
    (handleLeaveIntent n n.name lt prune wall).1.members = n.members ∧
    (handleLeaveIntent n n.name lt prune wall).1.pending = n.pending ++ [witness n.clock lt] ∧
    (handleLeaveIntent n n.name lt prune wall).2.rebroadcast = false := by
  obtain ⟨m, hm, rfl⟩ := ltimeOf_eq_iff.mp h
  rw [hli_refute prune wall hm hn hlife]
  exact ⟨rfl, rfl, rfl⟩

-- Witnesses: a leave at 5 about failed "c" → left at 5, listed as left and no longer as failed;
-- a new alive member "d", leave at 1 → leaving; a leave at 3 about the running local node → its
-- record stays and a refuting join (at the clock value 5) is spawned.
example : ltimeOf demo "c" = some 0 ∧ (0 : Nat) < 5 ∧ ¬ ("c" = demo.name ∧ demo.life = .alive) := by decide +kernel
example : statusOf (handleLeaveIntent demo "c" 5 false 0).1 "c" = some .left ∧
    ltimeOf (handleLeaveIntent demo "c" 5 false 0).1 "c" = some 5 ∧
    (handleLeaveIntent demo "c" 5 false 0).1.failed = [] ∧
    (handleLeaveIntent demo "c" 5 false 0).1.left = ["c"] := by decide +kernel
example : statusOf (handleLeaveIntent (step demo (.nodeJoin "d")).1 "d" 1 false 0).1 "d" = some .leaving := by decide +kernel
example : ltimeOf demo demo.name = some 0 ∧ demo.life = .alive ∧
    (handleLeaveIntent demo "self" 3 false 0).1.pending = [5] := by decide +kernel

/-! ### the single-node half of the unrefuted claim

W force-leaves the running X and the gossip copy is lost; W and X push/pull.  X is not on W's left list, so
W's entry for X (status time T) reaches X's `MergeRemoteState` in the SECOND loop, as a JOIN intent about X
itself: `handleNodeJoinIntent` adopts T, and the refutation (`go s.broadcastJoin`) exists only in
`handleNodeLeaveIntent`.  On the cluster model: `SerfProofs.Cluster.cluster_unrefuted_claim_counterexample`. -/

/-- single-node half of the agreement counterexample: a push/pull that carries a newer status time for the local node (not listed as left) is applied as a join intent: the node adopts the time and queues nothing, so it never refutes -/
theorem C02_agreement_partial_merge_adopts_silently :
    let n := Node.init "self" {}
    let r := step n (.merge 9 [("self", 7)] [] 0)
    ltimeOf r.1 "self" = some 7 ∧ r.1.pending = [] ∧ r.2.queued = [] := by decide +kernel

/-- for comparison, at the same node: the same claim arriving as a LEAVE intent (the gossip copy
that was lost) would have made it spawn its refuting join -/
theorem C02_agreement_partial_leave_would_refute :
    let n := Node.init "self" {}
    let r := step n (.leaveMsg "self" 7 false 0)
    ltimeOf r.1 "self" = some 0 ∧ r.1.pending = [8] := by decide +kernel

/-- Second counterexample to the agreement clause (recorded finding `rejoined-stuck-leaving`, seen on a
real 4-node cluster and reproduced on the real single node by corpus/C02/rejoined-stuck-leaving.case):
x leaves gracefully at L = 5, restarts and rejoins (its join intent carries L + 1 = 6); the observer gets
memberlist's NotifyJoin(x), then merges a push/pull from a peer that still lists x as left with status
time 5: the artificial leave intent at 5 + 1 = 6 turns the running x from alive to leaving, and x's
real join intent at 6 is ignored (6 ≤ 6) — x stays `leaving`, and the join is not even gossiped on. -/
theorem C02_rejoined_stuck_leaving_counterexample :
    let n := run (Node.init "a" {}) [.nodeJoin "x", .leaveMsg "x" 5 false 0, .nodeLeave "x" 0,
      .nodeJoin "x", .merge 6 [("x", 5)] ["x"] 0, .joinMsg "x" 6 0]
    statusOf n "x" = some .leaving ∧ ltimeOf n "x" = some 6 ∧
      (step n (.joinMsg "x" 6 0)).2.rebroadcast = false ∧
      statusOf (step n (.joinMsg "x" 6 0)).1 "x" = some .leaving := by decide +kernel

/-! ### cluster-level agreement, observer by observer

The full clause — memberlist truthful and every pair synced ⇒ any two running members agree on x as the
property's table says (x running: both `alive`; mid-leave: each `alive` or `leaving`; down after a leave /
force-leave newer than its latest join: both `left`; down otherwise: both `failed`) — does not hold of the
code.  Counterexample 1, the unrefuted claim: `SerfProofs.Cluster.cluster_unrefuted_claim_counterexample`
(2 nodes) and `…_three` (3 nodes, the gossip copy really lost).  Counterexample 2, the tie (recorded finding
`rejoined-stuck-leaving`, observed on a real 4-node cluster): `C02_rejoined_stuck_leaving_counterexample`,
on the cluster model `C02_agreement_counterexample_tie`.

Proved (`C02_agreement_partial*`): every node of every cluster run is the single-node `run` of its local
history (`crun_node`), so the observer-local theorems lift to every observer of every cluster run — any
delivery order, duplication, loss, any placement of push/pulls, memberlist notifications and local API
calls.  If the local histories of two observers satisfy the observer-local hypotheses of the same liveness
class of x, both list x with the same status.  The hypothesis `AliveAt` of the `alive` class excludes
exactly the two counterexamples: every leave claim about x that reached the observer (by gossip, or created
by a merge at StatusLTimes+1) is STRICTLY older than some join intent about x that reached it (the tie has
`=`; in the unrefuted claim the observer made the claim itself by a local force-leave, excluded by `noForce`).
-/

section ClusterAgreement
open SerfModel.Cluster SerfProofs.Cluster SerfProofs.NodeObserver

/-- The observer-local hypotheses of the `alive` class, for an observer starting as `n` with local
history `ops`: memberlist last reported x up; x was never erased nor its buffered intent reaped;
the observer did not force-leave x itself; every leave claim about x delivered to the observer is
strictly older than some join intent about x delivered to it. -/
structure AliveAt (n : Node) (ops : List Op) (x : Name) : Prop where
  ne : x ≠ n.name
  kept : KeptAlong n ops x
  noForce : NoForceLeave ops x
  up : lastUp x ops false = true
  newer : ∀ l ∈ leaveTimes ops x, ∃ j ∈ joinTimes ops x, l < j

/-- one observer of an arbitrary cluster run from a fresh cluster -/
theorem C02_cluster_observer_alive (names : List Name) (cfg : Config) (steps : List CStep) (i : Nat)
    (nm x : Name) (hi : names[i]? = some nm)
    (h : AliveAt (Node.init nm cfg) (history (Cluster.init names cfg) steps i) x) :
    ∃ s, (crun (Cluster.init names cfg) steps).nodes[i]? = some s ∧ statusOf s x = some .alive := by
  refine ⟨_, crun_node steps _ i _ (init_node names cfg i nm hi), ?_⟩
  exact observer_alive nm cfg _ x h.ne h.kept h.noForce h.up h.newer

/-- **Agreement, class `running`.** For every cluster run (any schedule, duplication, loss, push/pull
placement), any two observers whose local histories satisfy `AliveAt` for x both list x as alive. -/
theorem C02_agreement_partial (names : List Name) (cfg : Config) (steps : List CStep) (a b : Nat)
    (na nb x : Name) (ha : names[a]? = some na) (hb : names[b]? = some nb)
    (Ha : AliveAt (Node.init na cfg) (history (Cluster.init names cfg) steps a) x)
    (Hb : AliveAt (Node.init nb cfg) (history (Cluster.init names cfg) steps b) x) :
    ∃ sa sb, (crun (Cluster.init names cfg) steps).nodes[a]? = some sa ∧
      (crun (Cluster.init names cfg) steps).nodes[b]? = some sb ∧
      statusOf sa x = statusOf sb x ∧ statusOf sa x = some .alive := by
  obtain ⟨sa, h1, h2⟩ := C02_cluster_observer_alive names cfg steps a na x ha Ha
  obtain ⟨sb, h3, h4⟩ := C02_cluster_observer_alive names cfg steps b nb x hb Hb
  exact ⟨sa, sb, h1, h3, by rw [h2, h4], h2⟩

/-- **Agreement, class `left`, from any cluster state.** Two observers that list x as left keep
agreeing on `left` along every continuation in which memberlist does not announce x anew to them
and x is not erased (reaped / pruned) at them: no gossip, merge or local call resurrects x. -/
theorem C02_agreement_partial_left (c : Cluster) (steps : List CStep) (a b : Nat) (na nb : Node) (x : Name)
    (ha : c.nodes[a]? = some na) (hb : c.nodes[b]? = some nb)
    (la : statusOf na x = some .left) (lb : statusOf nb x = some .left)
    (ja : ∀ op ∈ history c steps a, op ≠ .nodeJoin x) (jb : ∀ op ∈ history c steps b, op ≠ .nodeJoin x)
    (ka : KeptAlong na (history c steps a) x) (kb : KeptAlong nb (history c steps b) x) :
    ∃ sa sb, (crun c steps).nodes[a]? = some sa ∧ (crun c steps).nodes[b]? = some sb ∧
      statusOf sa x = some .left ∧ statusOf sb x = some .left :=
  ⟨_, _, crun_node steps c a na ha, crun_node steps c b nb hb,
    left_stays_left na _ x la ja ka, left_stays_left nb _ x lb jb kb⟩

/-- **Agreement, class `failed`, from any cluster state.** Two observers that list x as failed keep
agreeing on `failed` while memberlist does not announce x anew, no leave / force-leave claim about x
reaches them (otherwise see `C01_forceleft_left`: it becomes left), and x is not erased. -/
theorem C02_agreement_partial_failed (c : Cluster) (steps : List CStep) (a b : Nat) (na nb : Node) (x : Name)
    (ha : c.nodes[a]? = some na) (hb : c.nodes[b]? = some nb) (xa : x ≠ na.name) (xb : x ≠ nb.name)
    (fa : statusOf na x = some .failed) (fb : statusOf nb x = some .failed)
    (ja : ∀ op ∈ history c steps a, op ≠ .nodeJoin x) (jb : ∀ op ∈ history c steps b, op ≠ .nodeJoin x)
    (ca : ∀ op ∈ history c steps a, isLeaveClaimAbout x op = false)
    (cb : ∀ op ∈ history c steps b, isLeaveClaimAbout x op = false)
    (ka : KeptAlong na (history c steps a) x) (kb : KeptAlong nb (history c steps b) x) :
    ∃ sa sb, (crun c steps).nodes[a]? = some sa ∧ (crun c steps).nodes[b]? = some sb ∧
      statusOf sa x = some .failed ∧ statusOf sb x = some .failed :=
  ⟨_, _, crun_node steps c a na ha, crun_node steps c b nb hb,
    failed_stays_failed na _ x xa fa ja ca ka, failed_stays_failed nb _ x xb fb jb cb kb⟩

/-- The tie on a cluster (counterexample 2; nodes 0 = "a", 1 = "p", 2 = "x").  "x" leaves gracefully
(leave intent at time 1, delivered to "a" and "p"; the copies they re-queue are lost), memberlist
reports it down to both, then "x" comes back: its join intent carries its clock, 2 — the tie time —
and memberlist reports it up to "a".  "a" push/pulls with "p", which still lists "x" as left at
time 1: `MergeRemoteState` makes the artificial leave at 1 + 1 = 2 and "a" turns the running "x"
from alive to leaving.  Then the real join intent at 2 is delivered to "a" (ignored: 2 ≤ 2) and to
"p" (applied), and memberlist reports "x" up to "p". -/
def tieRun : List CStep :=
  [.notify 0 "x" true 0, .notify 1 "x" true 0, .notify 2 "a" true 0,
   .api 2 (.leaveBegin 0),
   .deliver 0 0 true, .deliver 1 0 false, .drop 0, .drop 0,
   .notify 0 "x" false 3, .notify 1 "x" false 3,
   .api 2 (.ownJoin 0),
   .notify 0 "x" true 0,
   .pushPull 0 1 0,
   .deliver 0 0 true, .deliver 1 0 false, .notify 1 "x" true 0]

/-- Counterexample 2 to full agreement: after `tieRun`, "a" lists the running "x" as `leaving` and
"p" lists it as `alive`, both at status time 2, no refutation pending; more push/pulls in both
directions and further deliveries of the join intent still on the wire change nothing. -/
theorem C02_agreement_counterexample_tie :
    (crun (Cluster.init ["a", "p", "x"]) tieRun).nodes.map (fun n => (n.name, statusOf n "x", ltimeOf n "x", n.pending))
      = [("a", some .leaving, some 2, []), ("p", some .alive, some 2, []), ("x", some .alive, some 2, [])] ∧
    (crun (Cluster.init ["a", "p", "x"]) tieRun).flight = [.join "x" 2] ∧
    (crun (Cluster.init ["a", "p", "x"]) (tieRun ++ [.pushPull 0 1 0, .pushPull 1 0 0, .deliver 0 0 true, .deliver 0 0 true])).nodes
      = (crun (Cluster.init ["a", "p", "x"]) tieRun).nodes := by decide +kernel

-- towards non-vacuity of `AliveAt` / `C02_agreement_partial`: a run in which the leave claim about "x"
-- (time 1) is followed at both observers by a join intent at time 2 and both list "x" as alive; of
-- `AliveAt` the examples show `up` and the times behind `newer`, for observer 0.
def okRun : List CStep :=
  [.notify 0 "x" true 0, .notify 1 "x" true 0, .notify 2 "a" true 0,
   .api 2 (.leaveBegin 0), .deliver 0 0 true, .deliver 1 0 false, .drop 0, .drop 0,
   .api 2 (.ownJoin 0), .deliver 0 0 true, .deliver 1 0 false]
example : (crun (Cluster.init ["a", "p", "x"]) okRun).nodes.map (fun n => (statusOf n "x", ltimeOf n "x"))
    = [(some .alive, some 2), (some .alive, some 2), (some .alive, some 2)] := by decide +kernel
example : leaveTimes (history (Cluster.init ["a", "p", "x"]) okRun 0) "x" = [1] ∧
    joinTimes (history (Cluster.init ["a", "p", "x"]) okRun 0) "x" = [2] ∧
    lastUp "x" (history (Cluster.init ["a", "p", "x"]) okRun 0) false = true := by decide +kernel

end ClusterAgreement

/-! ### the agreement clause at the property's full statement

"For every delivery schedule of join and leave intents between members (any order, duplication and
loss) followed by a state-sync exchange, all members agree on each member's status: alive while it
runs, leaving or alive while it is mid-leave, left once it is down after a leave or force-leave
newer than its latest join, and failed if it went down otherwise."

Formalisation.  The pre-sync state is `crun (Cluster.init names cfg) steps` for ARBITRARY `steps`
(every order, duplication, loss of gossip; memberlist notifications, push/pulls and local API calls
anywhere); the bookkeeping invariant of every node (`AllBook`) is discharged by C15 (`allBook_crun`),
nothing else is assumed about how the state was reached.  The state-sync exchange is `syncRound c R w`:
one complete simultaneous push/pull round among the running nodes `R` (every LocalState computed before
the round, as memberlist does; every running node merges every other running node's state).
"Memberlist truthful" is a hypothesis on the pre-sync state: `UpView` (everybody who lists x lists it
alive or leaving, nobody has it on the left list — what the last notification `up` leaves behind) or
`DownView` (failed or left; no running node is named x).  All view predicates are decidable.

`NoTie` — no running node lists x `leaving` at a status time that no time known anywhere in the cluster
exceeds — is the single class excluded for a running x, and it is necessary, exactly
(`C02_agreement_tie_necessary`).  Both recorded counterexamples are instances: the tie
`rejoined-stuck-leaving` (`tie_violates_NoTie`; join at L+1 after a leave at L met by a stale push/pull —
and the same happens with an artificial leave at L+2, L+3 … made by a chain of merges) and the unrefuted
force-leave claim about a running member (`claim_violates_NoTie`).  `SomeLeftAtMax` reads "a leave newer
than its latest join": somebody holds the leave and its time is the newest time known.  The remaining
down case — somebody holds a leave OLDER than a join known elsewhere — is not an agreement after one
round; on the instance `stale_left_counterexample` it converges to `left` after two although the table says `failed`
(x left at 1, rejoined at 3 unseen by b, died; b: left, c: failed; round 1: left@3 / failed@3; round 2:
both left).  `wrap_counterexample`: at status time 2^64−1 the artificial leave wraps to 0 and never
applies (C19's wrap). -/

section FullAgreement
open SerfModel.Cluster SerfProofs.Cluster SerfProofs.ClusterSync

/-- **Agreement, x running.** Every schedule, then a complete state-sync round: all running nodes that
list x list it alive, with the same status time — unless some node holds an unbeaten leave claim. -/
theorem C02_agreement_running (names : List Name) (cfg : Config) (steps : List CStep) (R : List Nat)
    (x : Name) (w : Nat)
    (hu : UpView (crun (Cluster.init names cfg) steps) R x)
    (ht : NoTie (crun (Cluster.init names cfg) steps) R x) :
    ∀ i ∈ R, ∀ n', (syncRound (crun (Cluster.init names cfg) steps) R w).nodes[i]? = some n' →
      ∀ s, statusOf n' x = some s →
        s = .alive ∧ ltimeOf n' x = some (maxLtime (crun (Cluster.init names cfg) steps) R x) :=
  agreement_running _ R x w (allBook_crun names cfg steps) hu ht

/-- the excluded class is exactly what breaks it: a node outside `NoTie` is still `leaving` after the round -/
theorem C02_agreement_tie_necessary (names : List Name) (cfg : Config) (steps : List CStep) (R : List Nat)
    (x : Name) (w : Nat) (hu : UpView (crun (Cluster.init names cfg) steps) R x)
    (i : Nat) (hi : i ∈ R) (n : Node) (hn : (crun (Cluster.init names cfg) steps).nodes[i]? = some n)
    (hs : statusOf n x = some .leaving)
    (ht : ¬ ltimeAt (crun (Cluster.init names cfg) steps) i x < maxLtime (crun (Cluster.init names cfg) steps) R x) :
    ∃ n', (syncRound (crun (Cluster.init names cfg) steps) R w).nodes[i]? = some n' ∧
      statusOf n' x = some .leaving :=
  let ⟨n', h1, h2, _⟩ := tie_persists _ R x w (allBook_crun names cfg steps) hu i hi n hn hs ht
  ⟨n', h1, h2⟩

/-- **Agreement, x mid-leave (or up in general).** -/
theorem C02_agreement_midleave (names : List Name) (cfg : Config) (steps : List CStep) (R : List Nat)
    (x : Name) (w : Nat) (hu : UpView (crun (Cluster.init names cfg) steps) R x) :
    UpView (syncRound (crun (Cluster.init names cfg) steps) R w) R x :=
  (agreement_midleave _ R x w (allBook_crun names cfg steps) hu).1

/-- **Agreement, x down after a leave newer than every join known in the cluster.** -/
theorem C02_agreement_left (names : List Name) (cfg : Config) (steps : List CStep) (R : List Nat)
    (x : Name) (w : Nat) (hd : DownView (crun (Cluster.init names cfg) steps) R x)
    (hl : SomeLeftAtMax (crun (Cluster.init names cfg) steps) R x)
    (hw : maxLtime (crun (Cluster.init names cfg) steps) R x < two64 - 1) :
    ∀ i ∈ R, ∀ n', (syncRound (crun (Cluster.init names cfg) steps) R w).nodes[i]? = some n' →
      ∀ s, statusOf n' x = some s → s = .left :=
  agreement_left _ R x w (allBook_crun names cfg steps) hd hl hw

/-- **Agreement, x down otherwise.** -/
theorem C02_agreement_failed (names : List Name) (cfg : Config) (steps : List CStep) (R : List Nat)
    (x : Name) (w : Nat) (hd : DownView (crun (Cluster.init names cfg) steps) R x)
    (hn : NobodyLeft (crun (Cluster.init names cfg) steps) R x) :
    ∀ i ∈ R, ∀ n', (syncRound (crun (Cluster.init names cfg) steps) R w).nodes[i]? = some n' →
      ∀ s, statusOf n' x = some s →
        s = .failed ∧ ltimeOf n' x = some (maxLtime (crun (Cluster.init names cfg) steps) R x) :=
  agreement_failed _ R x w (allBook_crun names cfg steps) hd hn

-- concrete schedules satisfying each hypothesis set: `running_example`, `midleave_example`, `left_example`,
-- `failed_example` in SerfProofs.ClusterSync; e.g. the running class:
example : UpView healC [0, 1, 2] "x" ∧ NoTie healC [0, 1, 2] "x" := ⟨running_example.2.1, running_example.2.2.1⟩
-- the recorded finding is outside NoTie, and only that:
example : ¬ NoTie tieC [0, 1, 2] "x" := tie_violates_NoTie.2.1

end FullAgreement

/-! ### LocalState lists exactly the left members as left

Push/pull turns a LeftMembers entry into a leave intent at StatusLTimes+1 and every other entry into a
join intent.  So the sender must list in LeftMembers exactly the members it holds as `left`: a `leaving`
member (mid-leave, or wrongly claimed) listed there makes the receiver invent a leave at L+1 — which ties
with the refuting join of a running member (seeded change C02-e). -/

section LocalStateExact
open SerfModel.Cluster

theorem C02_localstate_left_exact (n : Node) (h : BookInv n) (x : Name) :
    x ∈ (localState n).2.2 ↔ statusOf n x = some .left := by
  simpa [localState] using h.leftIff x

theorem C02_localstate_left_exact_reachable (name : Name) (cfg : Config) (ops : List Op) (x : Name) :
    x ∈ (localState (run (Node.init name cfg) ops)).2.2 ↔ statusOf (run (Node.init name cfg) ops) x = some .left :=
  C02_localstate_left_exact _ (inv_run ops _ (inv_init name cfg)) x

/-- the broken shape: the sender also lists its `leaving` member "x" (time 5) as left; the fresh peer turns the
alive "x" into leaving at 6, and the refuting join of "x" at 6 is then ignored -/
theorem C02_localstate_leaving_as_left_counterexample :
    let a := run (Node.init "a" {}) [.nodeJoin "x", .leaveMsg "x" 5 false 0]
    let p := (step (Node.init "p" {}) (.nodeJoin "x")).1
    -- faithful push/pull: join intent at 5
    statusOf (step p (.merge (localState a).1 (localState a).2.1 (localState a).2.2 0)).1 "x" = some .alive ∧
    -- C02-e: "x" added to the left list
    statusOf (run p [.merge (localState a).1 (localState a).2.1 ["x"] 0, .joinMsg "x" 6 0]) "x" = some .leaving := by
  decide +kernel
end LocalStateExact

end SerfProofs.C02
