/-
C17 — Member event coalescing reports only the latest new state of each member.

Model: `SerfModel.MemberCoalesce` (serf/coalesce_member.go).  A *quantum* `q` is
the list of member events received since the previous flush; `c` is the coalescer
state at the start of the quantum (`c.latest = []`: true initially and, by
`C17_flush_resets`, after every flush).
-/
import SerfProofs.Lemmas.MemberCoalesce
import SerfModel.Gen.Coalescers
namespace SerfProofs.C17
open SerfModel SerfModel.MemberCoalesce SerfProofs.MemberCoalesce

/-- Every flush empties the pending set: nothing is reported twice. -/
theorem C17_flush_resets (c : MC) (q : List MEv) : (runQuantum c q).1.latest = [] := rfl

theorem pending_of_quantum (c : MC) (q : List MEv) (hc : c.latest = []) :
    LatestOK (q.foldl coalesce c).latest ∧ (q.foldl coalesce c).lastEvents = c.lastEvents ∧
    ∀ n, alookup (q.foldl coalesce c).latest n = lastFor q n := by
  obtain ⟨h1, h2, h3⟩ := fold_coalesce_latest q c (hc ▸ LatestOK.nil)
  refine ⟨h1, h2, fun n => ?_⟩
  rw [h3, hc]
  cases lastFor q n <;> rfl

/-- **What a flush emits, per member**: the latest event the member had in this quantum, unless
it is suppressed. -/
theorem flush_of_quantum (c : MC) (q : List MEv) (hc : c.latest = []) (n : String) :
    (runQuantum c q).2.filter (·.name == n) =
      (lastFor q n).toList.filter (fun e => !suppressed c.lastEvents e) := by
  obtain ⟨h1, h2, h3⟩ := pending_of_quantum c q hc
  rw [runQuantum, flush_filter_name _ h1, h2, h3]

/-- What a flush emits, exactly: the latest event of every member that had one in
this quantum, unless it is suppressed, in first-arrival order of the members. -/
theorem C17_flush_out (c : MC) (q : List MEv) (hc : c.latest = []) :
    (runQuantum c q).2 =
      ((q.foldl coalesce c).latest.map (·.2)).filter (fun e => !suppressed c.lastEvents e) := by
  obtain ⟨h1, h2, _⟩ := pending_of_quantum c q hc
  rw [runQuantum, flush_out _ h1, h2]

/-- **Each member at most once per flush.** -/
theorem C17_flush_nodup (c : MC) (q : List MEv) (hc : c.latest = []) :
    ((runQuantum c q).2.map (·.name)).Nodup := by
  obtain ⟨h1, _, _⟩ := pending_of_quantum c q hc
  -- the names sent are among the keys of the pending set, in their order
  have hkeys : ((q.foldl coalesce c).latest.map (·.2)).map (·.name) = akeys (q.foldl coalesce c).latest := by
    simp only [akeys, List.map_map]
    exact List.map_congr_left fun p hp => (h1.2 p hp).symm
  rw [C17_flush_out c q hc]
  exact ((List.filter_sublist.map _).trans (hkeys ▸ List.Sublist.refl _)).nodup h1.1

/-- **With the latest event received for it since the previous flush.** -/
theorem C17_flush_latest (c : MC) (q : List MEv) (hc : c.latest = []) (o : MEv)
    (ho : o ∈ (runQuantum c q).2) : lastFor q o.name = some o := by
  have : o ∈ (runQuantum c q).2.filter (·.name == o.name) := List.mem_filter.mpr ⟨ho, by simp⟩
  rw [flush_of_quantum c q hc] at this
  simpa using (List.mem_filter.mp this).1

/-- **Nothing for a member without an event in this quantum.** -/
theorem C17_flush_only_new (c : MC) (q : List MEv) (hc : c.latest = []) (n : String)
    (hn : n ∉ q.map (·.name)) : n ∉ (runQuantum c q).2.map (·.name) := by
  intro h
  obtain ⟨o, ho, rfl⟩ := List.mem_map.mp h
  exact hn (List.mem_map_of_mem (f := (·.name)) (lastFor_mem (C17_flush_latest c q hc o ho)))

/-- **Suppression rule.** The latest event `e` of a member is emitted iff it is not
of the same kind as the last one reported for that member, or is an update. -/
theorem C17_flush_iff (c : MC) (q : List MEv) (hc : c.latest = []) (n : String) (e : MEv)
    (he : lastFor q n = some e) :
    e ∈ (runQuantum c q).2 ↔ ¬ (alookup c.lastEvents n = some e.kind ∧ e.kind ≠ .update) := by
  have hname := lastFor_name he
  have : e ∈ (runQuantum c q).2 ↔ e ∈ (runQuantum c q).2.filter (·.name == n) := by simp [hname]
  rw [this, flush_of_quantum c q hc, he]
  simp [suppressed, hname, Decidable.imp_iff_not_or]

theorem lastEvents_after_quantum (c : MC) (q : List MEv) (hc : c.latest = []) (n : String) :
    alookup (runQuantum c q).1.lastEvents n = ((lastFor q n).map (·.kind) <|> alookup c.lastEvents n) := by
  obtain ⟨h1, h2, h3⟩ := pending_of_quantum c q hc
  rw [runQuantum, flush_lastEvents_pending _ h1, h2, h3]

/-- **The kind the application last saw for each member equals the kind of the
latest event**, after any number of quanta split at any points. -/
theorem C17_app_sees_latest (quanta : List (List MEv)) : ∀ (c : MC), c.latest = [] → ∀ n,
    alookup (runQuanta c quanta).1.lastEvents n =
      ((lastFor quanta.flatten n).map (·.kind) <|> alookup c.lastEvents n) := by
  induction quanta with
  | nil => intro c _ n; simp [runQuanta, lastFor_nil]
  | cons q qs ih =>
    intro c hc n
    simp only [runQuanta, List.flatten_cons]
    rw [ih (runQuantum c q).1 (C17_flush_resets c q) n, lastEvents_after_quantum c q hc n, lastFor_append]
    cases lastFor qs.flatten n <;> cases lastFor q n <;> simp

/-- Starting from a new coalescer: the last-seen kind is exactly the kind of the
latest event of the whole history (and nothing for members never seen). -/
theorem C17_app_sees_latest_init (quanta : List (List MEv)) (n : String) :
    alookup (runQuanta {} quanta).1.lastEvents n = (lastFor quanta.flatten n).map (·.kind) := by
  rw [C17_app_sees_latest quanta {} rfl n]
  cases lastFor quanta.flatten n <;> simp

theorem runQuanta_latest_nil (quanta : List (List MEv)) : ∀ (c : MC), c.latest = [] → (runQuanta c quanta).1.latest = [] := by
  induction quanta with
  | nil => intro c hc; simpa [runQuanta] using hc
  | cons q qs ih =>
    intro c _
    simp only [runQuanta]
    exact ih _ (C17_flush_resets c q)

/-- **Closed form over the whole history** (no hypothesis on the coalescer: it starts fresh).
After any earlier quanta `pre`, the latest event `e` of member `n` in the next quantum `q` is
reported at its flush iff its kind differs from the kind of the member's latest event in all of
`pre`, or it is an update.  Nothing else is ever reported for `n` at that flush
(`C17_flush_latest`, `C17_flush_nodup`). -/
theorem C17_history_report_iff (pre : List (List MEv)) (q : List MEv) (n : String) (e : MEv)
    (he : lastFor q n = some e) :
    e ∈ (runQuantum (runQuanta {} pre).1 q).2 ↔
      ¬ ((lastFor pre.flatten n).map (·.kind) = some e.kind ∧ e.kind ≠ .update) := by
  rw [C17_flush_iff _ q (runQuanta_latest_nil pre {} rfl) n e he, C17_app_sees_latest_init]

/-- … and every flush of every history reports each member at most once, with the latest event of
its quantum. -/
theorem C17_history_flush_sound (pre : List (List MEv)) (q : List MEv) :
    ((runQuantum (runQuanta {} pre).1 q).2.map (·.name)).Nodup ∧
    ∀ o ∈ (runQuantum (runQuanta {} pre).1 q).2, lastFor q o.name = some o :=
  ⟨C17_flush_nodup _ q (runQuanta_latest_nil pre {} rfl),
   fun o ho => C17_flush_latest _ q (runQuanta_latest_nil pre {} rfl) o ho⟩

-- C17_history_report_iff: a join after a join (in an earlier quantum) is not reported, an update is
example : (runQuantum (runQuanta {} [[⟨.join, "a", 1⟩], []]).1 [⟨.failed, "a", 2⟩, ⟨.join, "a", 3⟩, ⟨.update, "b", 4⟩]).2
    = [⟨.update, "b", 4⟩] := by decide +kernel

/-! ### Ties to serf/coalesce_member.go (regenerated on every run: extract/coalescers.go) -/

section SourceTies
open SerfModel.CoalesceShapes SerfModel.Gen.Coalescers

/-- **The loop body of `Flush`, interpreted.**  For one pending event the source's loop body —
guard translated and evaluated, actions `recordLast` (`lastEvents[name] = kind`) and `addToEvent`
— does exactly what the model's `flushLoop` does: nothing when `suppressed`, otherwise record the
kind and report the event.  Proved for every `lastEvents` and event, so a flipped guard with
swapped branches, `if !(…) { … }` instead of `continue`, a renamed variable or a reordering of the
two actions leaves it intact, and any change of the condition or of what is recorded breaks it. -/
theorem C17_flush_body_is_source_program (last : List (String × Kind)) (out : List MEv) (e : MEv) :
    runM memberFlushBody last out e =
      some (if suppressed last e then (last, out) else (ainsert last e.name e.kind, out ++ [e])) := by
  cases h : alookup last e.name with
  | none =>
    -- the simp lemmas that do not fire on the guard as the source spells it are there for its other spellings
    simp [memberFlushBody, runM, Cond.eval, memberEnvB, memberEnvV, suppressed, h]
  | some k =>
    -- the guard is decided by whether the kinds agree and whether the pending one is an update,
    -- whichever way round the source writes the two comparisons
    have hk' : (e.kind == k) = (k == e.kind) := BEq.comm
    have hu' : (Kind.update == e.kind) = (e.kind == Kind.update) := BEq.comm
    cases hk : k == e.kind <;> cases hu : e.kind == Kind.update <;>
      simp [memberFlushBody, runM, Cond.eval, memberEnvB, memberEnvV, kindOps, kindOfGo, suppressed, h, bne,
        hk', hu', hk, hu]

/-- The guard alone, as a function of (`ok`, previous kind, pending kind). -/
theorem C17_suppress_cond_tie (previous cur : Kind) :
    runM memberFlushBody [("m", previous)] [] ⟨cur, "m", 0⟩ =
      some (if previous == cur && cur != .update then ([("m", previous)], [])
            else ([("m", cur)], [⟨cur, "m", 0⟩])) := by
  rw [C17_flush_body_is_source_program]
  simp [suppressed, alookup_cons, ainsert]

/-- `Coalesce` ranges over the members of the event and stores each unconditionally under the
member's name, with the event's type and (a pointer to a copy of) the member: no early out, no look
at `lastEvents`, no merging with what is pending (`coalesce c e = ainsert … e.name e`). -/
theorem C17_coalesce_stores_unconditionally :
    memberCoalesceRange = "range p0.(MemberEvent).Members" ∧ memberCoalesceBody = .act "store" .done :=
  ⟨rfl, rfl⟩

/-- `Flush` as a whole: a fresh grouping map, ONE pass over `latestEvents`, every grouped event is
sent, and `latestEvents` is replaced by an empty map (`flush`'s `latest := []`). -/
theorem C17_flush_shape :
    memberFlushStmts =
      ["v0 := make(map[EventType]*MemberEvent)", "range r.latestEvents { BODY }", "range v0 { p0 <- *v0[*] }",
       "r.latestEvents = make(map[string]coalesceEvent)"] := rfl

/-- **`Handle`, interpreted**: true exactly for the five member event kinds, false for user events
and everything else (whatever the shape: separate cases, one case list, an if-chain). -/
theorem C17_handle_is_source_program :
    (∀ k : Kind, memberHandleProg.evalBool natOps (handleEnvB none) (handleEnvV (kindCode k)) = some true) ∧
    memberHandleProg.evalBool natOps (handleEnvB (some true)) (handleEnvV 5) = some false ∧
    memberHandleProg.evalBool natOps (handleEnvB none) (handleEnvV 6) = some false := by
  -- one evaluation by the kernel for all seven event types (case by case, each evaluation would
  -- decode the program's string literals again)
  have h : (∀ k ∈ [Kind.join, .leave, .failed, .update, .reap],
        memberHandleProg.evalBool natOps (handleEnvB none) (handleEnvV (kindCode k)) = some true) ∧
      memberHandleProg.evalBool natOps (handleEnvB (some true)) (handleEnvV 5) = some false ∧
      memberHandleProg.evalBool natOps (handleEnvB none) (handleEnvV 6) = some false := by decide +kernel
  exact ⟨fun k => h.1 k (by cases k <;> simp), h.2⟩

end SourceTies

-- Non-vacuity / regression witness: an update is re-reported only when a new one arrived.
example : (runQuanta {} [[⟨.join, "a", 1⟩, ⟨.update, "a", 2⟩, ⟨.join, "b", 1⟩], [], [⟨.update, "a", 3⟩, ⟨.join, "b", 4⟩]]).2
    = [[⟨.update, "a", 2⟩, ⟨.join, "b", 1⟩], [], [⟨.update, "a", 3⟩]] := by decide +kernel

end SerfProofs.C17
