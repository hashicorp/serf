/-
C32 — Tags and gossip messages survive encoding unchanged.

Statement (properties.jsonl): every gossip message kind and every tag set a node
encodes decodes at any other node to an equivalent value (full tags from protocol 3
on, only the role before), and a relayed reply reaches its destination
byte-for-byte.  A tag set is accepted only if its encoding fits the member metadata limit.

All theorems are about the executable models `SerfModel.Msgpack` (go-msgpack with the
default handle) and `SerfModel.Codec` (serf's structs, tag codec, relay branch), which
the checker compares byte-for-byte with the real library on every run.  They quantify
over ALL field values (arbitrary byte strings for Go strings, every integer in the
field's range) with only the sizes the wire format itself can carry (< 2^32) assumed.
-/
import SerfProofs.Lemmas.Codec
namespace SerfProofs.C32
open SerfModel.Msgpack SerfModel.Codec SerfProofs.Msgpack SerfProofs.Codec

/-- The msgpack layer: any well-formed value followed by arbitrary bytes decodes to
exactly that value and leaves exactly those bytes. -/
theorem C32_msgpack_roundtrip (v : MP) (h : wf v = true) (rest : Bytes) :
    decode (encode v ++ rest) = some (v, rest) :=
  decode_encode v h rest

example : wf (.map [(.raw [76], .arr [.uint 300, .int (-5), .nil, .bool true, .f64 7])]) = true := by decide

/-! #### `decodeMessage(encodeMessage(t, m)[1:]) = m` for the message kinds that have a codec in `SerfModel.Codec`

Of the ten wire types of messages.go: leave, join, push/pull, user event, query, query response (here) and the relay
header (`C32_relay_exact`); the bodies of conflict response, key request and key response are not modelled.  The two
filter kinds travel inside a query. -/

theorem C32_message_roundtrip_join (t : UInt8) (m : Join) (h : m.valid = true) :
    decodeBody Join.ofMP (encodeMessage t m.toMP) = .ok m :=
  (Join.rt m h).wire t
example : ({ ltime := 2 ^ 64 - 1, node := [0xff, 0] } : Join).valid = true := by decide

theorem C32_message_roundtrip_leave (t : UInt8) (m : Leave) (h : m.valid = true) :
    decodeBody Leave.ofMP (encodeMessage t m.toMP) = .ok m :=
  (Leave.rt m h).wire t
example : ({ ltime := 128, node := [], prune := true } : Leave).valid = true := by decide

theorem C32_message_roundtrip_userEvent (t : UInt8) (m : UserEv) (h : m.valid = true) :
    decodeBody UserEv.ofMP (encodeMessage t m.toMP) = .ok m :=
  (UserEv.rt m h).wire t
example : ({ ltime := 65536, name := [1], payload := some [], cc := true } : UserEv).valid = true := by decide

theorem C32_message_roundtrip_query (t : UInt8) (m : Query) (h : m.valid = true) :
    decodeBody Query.ofMP (encodeMessage t m.toMP) = .ok m :=
  (Query.rt m h).wire t
example : ({ ltime := 1, id := 2 ^ 32 - 1, addr := some [127, 0, 0, 1], port := 65535, filters := some [none, some []],
             flags := 3, relayFactor := 255, timeout := -1, name := [113] } : Query).valid = true := by decide

theorem C32_message_roundtrip_queryResponse (t : UInt8) (m : QueryResp) (h : m.valid = true) :
    decodeBody QueryResp.ofMP (encodeMessage t m.toMP) = .ok m :=
  (QueryResp.rt m h).wire t
example : ({ ltime := 1, id := 7, from_ := [97], flags := 1, payload := none } : QueryResp).valid = true := by decide

theorem C32_message_roundtrip_pushPull (t : UInt8) (m : PushPull) (h : m.valid = true) :
    decodeBody PushPull.ofMP (encodeMessage t m.toMP) = .ok m :=
  (PushPull.rt m h).wire t
example : ({ ltime := 1, statusLTimes := some [([97], 5), ([98], 6)], leftMembers := some [[108]], eventLTime := 2,
             events := some [some { ltime := 3, events := some [{ name := [101], payload := some [9] }] }, none],
             queryLTime := 4 } : PushPull).valid = true := by decide

theorem C32_message_roundtrip_filterNode (t : UInt8) (m : FilterNode) (h : FilterNode.valid m = true) :
    decodeBody FilterNode.ofMP (encodeMessage t (FilterNode.toMP m)) = .ok m :=
  (FilterNode.rt m h).wire t
example : FilterNode.valid (some [[97], []]) = true := by decide

theorem C32_message_roundtrip_filterTag (t : UInt8) (m : FilterTag) (h : m.valid = true) :
    decodeBody FilterTag.ofMP (encodeMessage t m.toMP) = .ok m :=
  (FilterTag.rt m h).wire t
example : ({ tag := [116], expr := [46, 42] } : FilterTag).valid = true := by decide

/-- delegate.go `case messageRelayType`: whatever bytes follow the header — the
encoded reply, or anything else — are forwarded unchanged, to the encoded destination. -/
theorem C32_relay_exact (hdr : RelayHdr) (h : hdr.valid = true) (raw : Bytes) :
    relayForward (9 :: (encode hdr.toMP ++ raw)) = .ok (hdr, raw) := by
  simp [relayForward, decode_encode _ (RelayHdr.rt hdr h).1 raw, (RelayHdr.rt hdr h).2]

/-- `encodeRelayMessage` then the relay branch: the destination receives exactly `encodeMessage(t, msg)`. -/
theorem C32_relay_message (hdr : RelayHdr) (h : hdr.valid = true) (t : UInt8) (body : MP) :
    relayForward (encodeRelay hdr t body) = .ok (hdr, encodeMessage t body) :=
  C32_relay_exact hdr h _
example : ({ ip := some [127, 0, 0, 1], port := 7946, zone := [], destName := [100] } : RelayHdr).valid = true := by decide

/-- Protocol ≥ 3: the full tag map survives (any byte strings as keys and values;
`t` lists the map's entries in the iteration order Go happened to use). -/
theorem C32_tags_v3 (proto : Nat) (hp : 3 ≤ proto) (t : Tags) (h : tagsValid t = true) :
    decodeTags (encodeTags proto (some t)) = (t, true) := by
  simp [tagsValid] at h
  obtain ⟨⟨hlen, hnodup⟩, hkv⟩ := h
  have hw : RT (putStrMap MP.raw) (getStrMap getStr) (some t) := RT.strMap fun kvs e => by
    cases e
    exact ⟨hlen, hnodup, fun p hp => ⟨(hkv _ _ hp).1, RT.raw _ (hkv _ _ hp).2⟩⟩
  have hd := decode_encode _ hw.1 []
  simp only [List.append_nil] at hd
  simp only [encodeTags, show ¬ proto < 3 by omega, if_false, decodeTags, hd]
  simpa [putStrMap] using foldTags_put t [] hnodup (by simp)
example : tagsValid [([114, 111, 108, 101], [255, 1]), ([], [])] = true := by decide

/-- a nil tag map decodes to the empty map -/
theorem C32_tags_v3_nil (proto : Nat) (hp : 3 ≤ proto) : decodeTags (encodeTags proto none) = ([], true) := by
  simp only [encodeTags, show ¬ proto < 3 by omega, if_false]
  decide

/-- `RoleOK r`: the role does not start with the magic byte 0xFF. -/
def RoleOK (r : Bytes) : Prop := r.head? ≠ some 255

/-
FULL STATEMENT (not provable — the code violates it, finding `role-ff-proto2`):
  theorem C32_tags_v2 (proto) (hp : proto < 3) (tags) :
      decodeTags (encodeTags proto tags) = ([(kRole, tagLookup (tags.getD []) kRole)], true)
A protocol-2 node sends the bare role; `decodeTags` decides by the first byte, so a
role that starts with 0xFF is parsed as msgpack: the role is lost and arbitrary other
tags can appear.  `C32_tags_v2_partial` excludes exactly those roles;
`C32_tags_v2_counterexample` is the negation witness.
-/
theorem C32_tags_v2_partial (proto : Nat) (hp : proto < 3) (tags : Option Tags)
    (hr : RoleOK (tagLookup (tags.getD []) kRole)) :
    decodeTags (encodeTags proto tags) = ([(kRole, tagLookup (tags.getD []) kRole)], true) := by
  unfold RoleOK at hr
  simp only [encodeTags, hp, if_true]
  generalize tagLookup (tags.getD []) kRole = role at hr ⊢
  cases role with
  | nil => rfl
  | cons b r =>
    simp at hr
    unfold decodeTags
    split
    · rename_i e; simp at e; exact absurd e.1 hr
    · rfl
example : RoleOK (tagLookup [(kRole, [119, 101, 98])] kRole) := by unfold RoleOK; decide

/-- role = FF 81 A1 'a' A1 'b' on protocol 2 is decoded as the tag map {a ↦ b}: no role at all. -/
theorem C32_tags_v2_counterexample :
    decodeTags (encodeTags 2 (some [(kRole, [255, 0x81, 0xa1, 97, 0xa1, 98])])) = ([([97], [98])], true) := by
  decide

/-- role = FF 'a' 'b' 'c' on protocol 2: msgpack decoding fails, the member gets no tags. -/
theorem C32_tags_v2_counterexample_lost :
    decodeTags (encodeTags 2 (some [(kRole, [255, 97, 98, 99])])) = ([], false) := by
  decide

/-! #### metadata limit (serf.go, the `memberlist.MetaMaxSize` tests of `Create` and `SetTags`) -/

/-- A tag set is accepted iff its encoding is at most `memberlist.MetaMaxSize` = 512 bytes. -/
theorem C32_meta_limit (proto : Nat) (tags : Option Tags) :
    tagsAccepted proto tags = true ↔ (encodeTags proto tags).length ≤ 512 := by
  unfold tagsAccepted metaMaxSize
  exact decide_eq_true_iff

/-- …and the verdict does not depend on the order in which Go iterates the map. -/
theorem C32_meta_limit_order_independent (proto : Nat) (hp : 3 ≤ proto) (t t' : Tags) (h : List.Perm t t') :
    tagsAccepted proto (some t) = tagsAccepted proto (some t') := by
  simp [tagsAccepted, encodeTags_length_perm proto hp t t' h]

end SerfProofs.C32
