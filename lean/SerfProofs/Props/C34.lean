/-
C34 — Serf lifecycle state only moves forward.

The `stateLock` regions of Leave / Shutdown / Join are regenerated from
serf/serf.go (`SerfModel.Gen.Lifecycle`); concurrent calls interleave at region
granularity (`SerfModel.Lifecycle.step`).  Per-region facts are finite and decided
by `decide` over the generated programs; they are lifted to every schedule by
induction.
-/
import SerfModel.Model.Lifecycle
import SerfModel.Gen.Lifecycle
namespace SerfProofs.C34
open SerfModel.Lifecycle

abbrev P : Progs := SerfModel.Gen.Lifecycle.progs

def allRegions (p : Progs) : List Region := p.leave ++ p.shutdown ++ p.join

theorem St.mem_all (s : St) : s ∈ St.all := by cases s <;> decide

theorem St.rank_pos {s : St} : s ≠ .alive ↔ 0 < s.rank := by cases s <;> simp [St.rank]

/-- Source-tied obligation: no region of the current tree ever lowers the state. -/
theorem C34_regions_forward :
    ∀ r ∈ allRegions P, ∀ s ∈ St.all, s.rank ≤ (execRegion r s).1.rank := by decide

/-- Every in-progress call holds a suffix of its program. -/
def ThrOK (th : Thr) : Prop := ∀ c rs, th.cur = some (c, rs) → rs <:+ P.of c

theorem mem_allRegions {c : Call} {r : Region} (h : r ∈ P.of c) : r ∈ allRegions P := by
  cases c <;> simp only [allRegions, List.mem_append] <;> simp_all [Progs.of]

/- Kept by every step: an in-progress call holds a suffix of its program, so the region it runs next is one of `allRegions P`
and `C34_regions_forward` applies to it; the history is sorted and ends with the current state. -/
structure Inv (s : Sys) : Prop where
  thr : ∀ th ∈ s.threads, ThrOK th
  sorted : s.history.Pairwise (fun a b => a.rank ≤ b.rank)
  last : s.history.getLast? = some s.state

theorem Inv.init (progs : List (List Call)) : Inv (Sys.init progs) := by
  refine ⟨?_, by simp [Sys.init], by simp [Sys.init]⟩
  intro th hth
  simp [Sys.init] at hth
  obtain ⟨p, _, rfl⟩ := hth
  intro c rs h; simp at h

/-- What a step of thread `t` does: nothing (no such thread, or an idle one without calls left), start the next call, return
from a call whose regions are used up, or run the next region. -/
theorem step_cases (p : Progs) (s : Sys) (t : Nat) {C : Sys → Prop} (idle : C s)
    (start : ∀ th c rest, s.threads[t]? = some th → th.cur = none → th.todo = c :: rest →
      C { s with threads := s.threads.set t { th with cur := some (c, p.of c), todo := rest } })
    (ret : ∀ th c, s.threads[t]? = some th → th.cur = some (c, []) →
      C { s with threads := s.threads.set t { th with cur := none, results := th.results ++ [(c, .ok)] } })
    (region : ∀ th c r rest, s.threads[t]? = some th → th.cur = some (c, r :: rest) →
      C { state := (execRegion r s.state).1, history := s.history ++ [(execRegion r s.state).1],
          threads := s.threads.set t (match (execRegion r s.state).2 with
            | some x => { th with cur := none, results := th.results ++ [(c, x)] }
            | none => { th with cur := some (c, rest) }) }) :
    C (step p s t) := by
  unfold step
  split
  · exact idle
  next th hth =>
    split
    · split
      · exact idle
      next c rest htodo => exact start th c rest hth ‹_› htodo
    next c hcur => exact ret th c hth hcur
    next c r rest hcur => exact region th c r rest hth hcur

theorem step_threads_ne (p : Progs) (s : Sys) {u t : Nat} (h : u ≠ t) : (step p s u).threads[t]? = s.threads[t]? :=
  step_cases p s u (C := fun s' => s'.threads[t]? = s.threads[t]?) rfl (fun _ _ _ _ _ _ => List.getElem?_set_ne h)
    (fun _ _ _ _ => List.getElem?_set_ne h) fun _ _ _ _ _ _ => List.getElem?_set_ne h

theorem step_inv (s : Sys) (t : Nat) (h : Inv s) : Inv (step P s t) ∧ s.state.rank ≤ (step P s t).state.rank := by
  have set_ok : ∀ th', ThrOK th' → ∀ x ∈ s.threads.set t th', ThrOK x := fun th' h' x hx =>
    (List.mem_or_eq_of_mem_set hx).elim (h.thr x) (· ▸ h')
  refine step_cases P s t (C := fun s' => Inv s' ∧ s.state.rank ≤ s'.state.rank) ⟨h, Nat.le_refl _⟩
    (fun th c rest _ _ _ => ⟨⟨set_ok _ fun c' rs' he => ?_, h.sorted, h.last⟩, Nat.le_refl _⟩)
    (fun th c _ _ => ⟨⟨set_ok _ (fun _ _ he => nomatch he), h.sorted, h.last⟩, Nat.le_refl _⟩)
    fun th c r rest hth hcur => ?_
  · obtain ⟨rfl, rfl⟩ := Prod.mk.inj (Option.some.inj he)
    exact List.suffix_refl _
  · have hsuf := h.thr th (List.mem_of_getElem? hth) c (r :: rest) hcur
    have hfw : s.state.rank ≤ (execRegion r s.state).1.rank :=
      C34_regions_forward r (mem_allRegions (hsuf.subset List.mem_cons_self)) _ (St.mem_all _)
    refine ⟨⟨set_ok _ ?_, ?_, List.getLast?_concat⟩, hfw⟩
    · intro c' rs' he
      split at he
      · cases he
      · obtain ⟨rfl, rfl⟩ := Prod.mk.inj (Option.some.inj he)
        exact (List.suffix_cons _ _).trans hsuf
    · -- every earlier value is below the last one, which is the old state
      obtain ⟨ys, hys⟩ := List.getLast?_eq_some_iff.mp h.last
      have hs := h.sorted
      rw [hys] at hs ⊢
      rw [List.pairwise_append] at hs ⊢
      refine ⟨List.pairwise_append.mpr hs, List.pairwise_singleton _ _, fun a ha b hb => ?_⟩
      rw [List.mem_singleton.mp hb]
      rcases List.mem_append.mp ha with ha | ha
      · exact Nat.le_trans (hs.2.2 a ha s.state List.mem_cons_self) hfw
      · rw [List.mem_singleton.mp ha]; exact hfw

theorem run_inv (sched : List Nat) {s : Sys} (h : Inv s) :
    Inv (run P s sched) ∧ s.state.rank ≤ (run P s sched).state.rank :=
  List.foldlRecOn sched (step P) (motive := fun s' => Inv s' ∧ s.state.rank ≤ s'.state.rank) ⟨h, Nat.le_refl _⟩
    fun s' hs' t _ => ⟨(step_inv s' t hs'.1).1, Nat.le_trans hs'.2 (step_inv s' t hs'.1).2⟩

/-- **The reported state only moves forward**: for every set of concurrent callers
and every schedule, the sequence of values the state has had is ordered
alive ≤ leaving ≤ left ≤ shutdown. -/
theorem C34_forward (progs : List (List Call)) (sched : List Nat) :
    (run P (Sys.init progs) sched).history.Pairwise (fun a b => a.rank ≤ b.rank) :=
  (run_inv sched (Inv.init progs)).1.sorted

/-- … and in particular between any two points of a schedule. -/
theorem C34_forward_between (progs : List (List Call)) (s1 s2 : List Nat) :
    (run P (Sys.init progs) s1).state.rank ≤ (run P (Sys.init progs) (s1 ++ s2)).state.rank := by
  simp only [run, List.foldl_append]
  exact (run_inv s2 (run_inv s1 (Inv.init progs)).1).2

/-- **Repeated shutdown succeeds without effect.** -/
theorem C34_shutdown_idempotent : callSeq P .shutdown .shutdown = (.shutdown, .ok) := by decide

/-- **A leave after a completed leave succeeds without effect.** -/
theorem C34_leave_after_left : callSeq P .left .leave = (.left, .ok) := by decide

/-- Shutdown from any state ends in `shutdown`; Leave from alive ends in `left`
(when not overtaken), sequentially. -/
theorem C34_shutdown_reaches : ∀ s ∈ St.all, callSeq P s .shutdown = (.shutdown, .ok) := by decide
theorem C34_leave_from_alive : callSeq P .alive .leave = (.left, .ok) := by decide

/-- **A join is refused whenever a leave or shutdown has begun**: the region of
`Join` executed in any state other than `alive` returns the error, and (by
`C34_forward_between`) the state never returns to `alive`. -/
theorem C34_join_refused_region : ∀ s ∈ St.all, s ≠ .alive → P.join.map (fun r => execRegion r s) = [(s, some .err)] := by
  decide

/-- The first region of `Leave` and the region of `Shutdown` leave `alive` behind
unless they return at once: this is what "has begun" means. -/
theorem C34_begun_not_alive :
    (execRegion (P.leave.headD []) .alive).1 ≠ .alive ∧ (execRegion (P.shutdown.headD []) .alive).1 ≠ .alive := by decide

/-- Thread `t` has no join in progress that already passed its state test. -/
def NoPassedJoin (th : Thr) : Prop := ∀ rs, th.cur = some (.join, rs) → rs = P.join

theorem join_region_err {s : St} (hs : s ≠ .alive) {r : Region} {rest : List Region} (h : r :: rest = P.join) :
    (execRegion r s).2 = some .err := by
  have := C34_join_refused_region s (St.mem_all s) hs
  rw [← h] at this
  exact congrArg Prod.snd (List.cons.inj this).1

/-- `r` extends `r0` by results among which every join is an error: the conclusion of `C34_join_refused` about a thread's results,
in a form that composes along a schedule (`Refused.trans`). -/
def Refused (r0 r : List (Call × Res)) : Prop := ∃ new, r = r0 ++ new ∧ ∀ x ∈ new, x.1 = .join → x.2 = .err

theorem Refused.refl {r : List (Call × Res)} : Refused r r :=
  ⟨[], (List.append_nil r).symm, fun _ h => nomatch h⟩

theorem Refused.snoc {r : List (Call × Res)} {c : Call} {x : Res} (h : c = .join → x = .err) : Refused r (r ++ [(c, x)]) :=
  ⟨[(c, x)], rfl, fun _ hy => List.mem_singleton.mp hy ▸ h⟩

theorem Refused.trans {r0 r1 r2 : List (Call × Res)} : Refused r0 r1 → Refused r1 r2 → Refused r0 r2
  | ⟨n1, e1, h1⟩, ⟨n2, e2, h2⟩ =>
    ⟨n1 ++ n2, by rw [e2, e1, List.append_assoc], fun x hx => (List.mem_append.mp hx).elim (h1 x) (h2 x)⟩

theorem step_join_refused (s : Sys) (hst : s.state ≠ .alive) (u t : Nat) (th0 : Thr)
    (ht : s.threads[t]? = some th0) (hnp : NoPassedJoin th0) :
    ∃ th1, (step P s u).threads[t]? = some th1 ∧ NoPassedJoin th1 ∧ Refused th0.results th1.results := by
  by_cases hut : u = t
  · subst hut
    have hlen : u < s.threads.length := (List.getElem?_eq_some_iff.mp ht).1
    -- in each case the thread found at `u` is `th0`
    have same : ∀ {th}, s.threads[u]? = some th → th = th0 := fun h => Option.some.inj (h.symm.trans ht)
    refine step_cases P s u (C := fun s' => ∃ th1, s'.threads[u]? = some th1 ∧ NoPassedJoin th1 ∧ Refused th0.results th1.results)
      ⟨th0, ht, hnp, .refl⟩ (fun th c rest hth _ _ => ?_) (fun th c hth hcur => ?_) fun th c r rest hth hcur => ?_
    · refine ⟨_, List.getElem?_set_self hlen, fun rs he => ?_, same hth ▸ .refl⟩
      obtain ⟨rfl, rfl⟩ := Prod.mk.inj (Option.some.inj he)
      rfl
    · -- a join without regions left would have passed its test
      cases same hth
      exact ⟨_, List.getElem?_set_self hlen, nofun, .snoc fun hj => absurd (hnp [] (hj ▸ hcur)) (by decide)⟩
    · cases same hth
      have herr : c = .join → (execRegion r s.state).2 = some .err := fun hj =>
        join_region_err hst (hnp _ (hj ▸ hcur))
      refine ⟨_, List.getElem?_set_self hlen, ?_⟩
      split
      next x hres => exact ⟨nofun, .snoc fun hj => Option.some.inj (hres.symm.trans (herr hj))⟩
      next hres =>
        refine ⟨fun rs he => ?_, .refl⟩
        obtain ⟨rfl, rfl⟩ := Prod.mk.inj (Option.some.inj he)
        rw [herr rfl] at hres
        cases hres
  · exact ⟨th0, (step_threads_ne P s hut).trans ht, hnp, .refl⟩

/-- **Join refused, over every schedule.** If at some point the state is no longer
`alive` and thread `t` has no join past its state test, every join of `t` completed
later is refused. -/
theorem C34_join_refused (s : Sys) (hinv : Inv s) (hst : s.state ≠ .alive) (t : Nat) (th0 : Thr)
    (ht : s.threads[t]? = some th0) (hnp : NoPassedJoin th0) (sched : List Nat) :
    ∃ th, (run P s sched).threads[t]? = some th ∧ NoPassedJoin th ∧
      ∃ new, th.results = th0.results ++ new ∧ ∀ x ∈ new, x.1 = .join → x.2 = .err := by
  refine (List.foldlRecOn sched (step P) (motive := fun s' => (Inv s' ∧ s'.state ≠ .alive) ∧
      ∃ th, s'.threads[t]? = some th ∧ NoPassedJoin th ∧ Refused th0.results th.results)
    ⟨⟨hinv, hst⟩, th0, ht, hnp, .refl⟩ ?_).2
  intro s' ⟨⟨hi, hs⟩, th1, h1, hnp1, hr1⟩ u _
  obtain ⟨hi', hrank⟩ := step_inv s' u hi
  obtain ⟨th2, h2, hnp2, hr2⟩ := step_join_refused s' hs u t th1 h1 hnp1
  exact ⟨⟨hi', St.rank_pos.mpr (Nat.lt_of_lt_of_le (St.rank_pos.mp hs) hrank)⟩, th2, h2, hnp2, hr1.trans hr2⟩

-- Non-vacuity: a concurrent leave / shutdown / join run.
example : (run P (Sys.init [[.leave], [.shutdown], [.join]]) [0, 0, 1, 1, 1, 2, 2, 0, 0]).history
    = [.alive, .leaving, .shutdown, .shutdown, .shutdown] := by decide +kernel
example : (run P (Sys.init [[.leave], [.shutdown], [.join]]) [0, 0, 1, 1, 1, 2, 2, 0, 0]).threads.map (·.results)
    = [[(.leave, .ok)], [(.shutdown, .ok)], [(.join, .err)]] := by decide +kernel

/-- **A lifecycle call examines (and for Leave / Shutdown changes) the state before anything that can block.**
Regenerated from the source: `Leave`, `Shutdown` and `Join` have no statement in front of their first state
region, so the region of a call is executed at the moment the call begins — which is what "a join is refused if a
leave or shutdown had begun before it was called" rests on (a lock taken first, e.g. `joinLock` in `Leave`, would
let a later `Join` pass its test while the leave is still waiting). -/
theorem C34_state_examined_first :
    SerfModel.Gen.Lifecycle.leavePreamble = [] ∧ SerfModel.Gen.Lifecycle.shutdownPreamble = [] ∧
    SerfModel.Gen.Lifecycle.joinPreamble = [] := ⟨rfl, rfl, rfl⟩

end SerfProofs.C34
