/-
C03 — A running member always lists itself as alive and refutes every newer leave claim.

Model: `SerfModel.Node` (serf/serf.go: `handleNodeLeaveIntent`, `handleNodeJoinIntent`,
`broadcastJoin`, `forceLeave`; serf/delegate.go: `MergeRemoteState`): one node's membership state
machine.  `step n op` applies one input; `run` folds `step`.  A refuting join is the goroutine
`go s.broadcastJoin(s.clock.Time())`: the Lamport time is evaluated when the goroutine is spawned
(after the claim's time was witnessed), so the model records it in `pending` at that point and the
input `runPending` is the scheduler running the oldest spawned goroutine.

`SelfInv` (`SerfProofs.NodeSelf`) is kept by every input that is not the start of a leave, next to the
bookkeeping invariant `BookInv` (C15), which is what keeps the reaper away: an alive member is on neither
list.  A leave claim about the running local node that is newer than its own record is refuted through
every entry point (gossip with or without prune, a local force-leave of the own name, a merge listing the
node as left): the own record stays as it is, a gossip copy is not re-queued, a join strictly newer than
the claim is spawned, and no other input removes or changes a spawned join.  The claim time `2^64 - 1` is excluded: the uint64
clock wraps and the refuting join carries time 0 (`C03_claim_max_wraps`, recorded with the C19 clock-wrap
finding).
-/
import SerfProofs.Lemmas.NodeSelf
namespace SerfProofs.C03
open SerfModel SerfModel.Node SerfProofs.NodeSteps SerfProofs.NodeBook SerfProofs.NodeSelf

/-- what the node lists about itself -/
def selfStatus (n : Node) : Option Status := statusOf n n.name

/-- the operations by which the member begins leaving: `Leave()`, `Shutdown()`, and memberlist
reporting the local node dead (memberlist does that only from inside `Leave`) -/
def departs (self : Name) : Op → Bool
  | .leaveBegin _ => true
  | .shutdown => true
  | .nodeLeave x _ => x == self
  | _ => false

theorem selfStatus_of_inv {me : Name} {n : Node} (h : SelfInv me n) : selfStatus n = some .alive := by
  unfold selfStatus
  rw [h.name]
  exact h.status

/-- `SelfInv` across one input that is not the start of a leave: the op's own part case by case,
its intents by `self_claim`. -/
theorem self_step (self : Name) (n : Node) (op : Op) (hb : BookInv n) (h : SelfInv self n)
    (hd : departs self op = false) : SelfInv self (step n op).1 := by
  rw [step_eq]
  refine List.foldlRecOn _ _ ?_ fun m hm c _ => self_claim self c m hm
  cases op with
  | nodeJoin x => exact self_handleNodeJoin self n x h
  | nodeLeave x a =>
    exact h.congr (hnl_bookOnly n x a).name (hnl_bookOnly n x a).life
      (hnl_lookup_ne n x a self fun e => by subst e; simp [departs] at hd)
  | reap now ov => exact self_reap self n now ov hb h
  | leaveBegin w => simp [departs] at hd
  | shutdown => simp [departs] at hd
  | leaveEnd => simp only [parts, leaveEnd, h.life]; exact h
  | merge lt st lf w =>
    simp only [parts]
    split
    · exact h.congr rfl rfl rfl
    · exact h
  | runPending w =>
    simp only [parts]
    split
    · exact h
    · exact h.congr rfl rfl rfl
  | _ => exact h.congr rfl rfl rfl

theorem self_run (self : Name) (ops : List Op) :
    ∀ n : Node, BookInv n → SelfInv self n → (∀ op ∈ ops, departs self op = false) →
      SelfInv self (run n ops) := by
  induction ops with
  | nil => intro n _ h _; exact h
  | cons op ops ih =>
    intro n hb h hd
    exact ih _ (inv_step n op hb) (self_step self n op hb h (hd op (by simp)))
      (fun o ho => hd o (by simp [ho]))

/-- one input that is not the start of a leave keeps "running, own name kept, lists itself alive" -/
theorem C03_self_alive_step (n : Node) (op : Op) (hb : BookInv n) (hl : n.life = .alive)
    (hs : selfStatus n = some .alive) (hop : departs n.name op = false) :
    (step n op).1.name = n.name ∧ selfStatus (step n op).1 = some .alive ∧ (step n op).1.life = .alive := by
  have h := self_step n.name n op hb ⟨rfl, hl, hs⟩ hop
  exact ⟨h.name, selfStatus_of_inv h, h.life⟩

-- Witness: a prune claim about the own name with a newer time is such an input.
example : BookInv (Node.init "self" {}) ∧ (Node.init "self" {}).life = .alive ∧
    selfStatus (Node.init "self" {}) = some .alive ∧
    departs (Node.init "self" {}).name (.leaveMsg "self" 7 true 0) = false :=
  ⟨inv_init _ _, by decide, by decide, by decide⟩

/-- while the member has not begun leaving it lists itself as alive, whatever it receives -/
theorem C03_self_alive (n : Node) (ops : List Op) (hb : BookInv n) (hl : n.life = .alive)
    (hs : selfStatus n = some .alive) (hops : ∀ op ∈ ops, departs n.name op = false) :
    selfStatus (run n ops) = some .alive ∧ (run n ops).life = .alive := by
  have h := self_run n.name ops n hb ⟨rfl, hl, hs⟩ hops
  exact ⟨selfStatus_of_inv h, h.life⟩

/-- A hostile run used by the witnesses: leave and prune claims about "self" by gossip, a merge
that lists "self" as left, force-leaves of "self", a reaper tick far in the future, and the
scheduler running the refutations in between. -/
def attack : List Op :=
  [.nodeJoin "b", .leaveMsg "self" 5 false 0, .leaveMsg "self" 9 true 0, .runPending 0,
   .merge 3 [("self", 20), ("b", 1)] ["self", "b"] 0, .forceLeave "self" true 0, .forceLeave "self" false 0,
   .reap 1000 (fun _ t => t), .runPending 0, .runPending 0, .nodeLeave "b" 7, .runPending 0, .leaveEnd]

example : ∀ op ∈ attack, departs (Node.init "self" {}).name op = false := by decide
example : selfStatus (run (Node.init "self" {}) attack) = some .alive ∧
    (run (Node.init "self" {}) attack).life = .alive :=
  C03_self_alive _ attack (inv_init _ _) (by decide) (by decide) (by decide)
-- the hypothesis is needed: after Leave() the own leave intent is applied
example : selfStatus (run (Node.init "self" {}) [.leaveBegin 0]) = some .leaving := by decide

/-- a gossip leave claim (with or without prune) about the running local node with a newer time:
status untouched, not re-queued, and a refuting join is spawned whose time is fixed now and is
strictly greater than the claim -/
theorem C03_refutes_gossip (n : Node) (lt wall t0 : Nat) (prune : Bool) (hl : n.life = .alive)
    (h0 : ltimeOf n n.name = some t0) (hnew : t0 < lt) (hmax : lt < two64 - 1) :
    ∃ t, (handleLeaveIntent n n.name lt prune wall).1.pending = n.pending ++ [t] ∧ lt < t ∧
      (handleLeaveIntent n n.name lt prune wall).1.members = n.members ∧
      (handleLeaveIntent n n.name lt prune wall).2.rebroadcast = false := by
  obtain ⟨m, hm, rfl⟩ := ltimeOf_eq_iff.mp h0
  rw [hli_refute prune wall hm hnew hl]
  exact ⟨witness n.clock lt, rfl, lt_witness hmax, rfl, rfl⟩

example : (Node.init "self" {}).life = .alive ∧ ltimeOf (Node.init "self" {}) (Node.init "self" {}).name = some 0 ∧
    (0 : Nat) < 7 ∧ 7 < two64 - 1 := by decide
example : (handleLeaveIntent (Node.init "self" {}) "self" 7 true 0).1.pending = [8] ∧
    (handleLeaveIntent (Node.init "self" {}) "self" 7 true 0).1.members = (Node.init "self" {}).members := by decide

/-- the same for a local force-leave (with or without prune) of the own name; the claim time is
the clock value `forceLeave` reads -/
theorem C03_refutes_forceLeave (n : Node) (wall t0 : Nat) (prune : Bool) (hl : n.life = .alive)
    (h0 : ltimeOf n n.name = some t0) (hnew : t0 < n.clock) (hmax : n.clock < two64 - 1) :
    ∃ t, (forceLeave n n.name prune wall).1.pending = n.pending ++ [t] ∧ n.clock < t ∧
      (forceLeave n n.name prune wall).1.members = n.members := by
  obtain ⟨m, hm, rfl⟩ := ltimeOf_eq_iff.mp h0
  unfold forceLeave
  dsimp only
  rw [hli_refute (n := { n with clock := (n.clock + 1) % two64 }) prune wall hm hnew hl]
  exact ⟨witness ((n.clock + 1) % two64) n.clock, rfl, lt_witness hmax, rfl⟩

example : ltimeOf (Node.init "self" {}) (Node.init "self" {}).name = some 0 ∧
    (0 : Nat) < (Node.init "self" {}).clock ∧ (Node.init "self" {}).clock < two64 - 1 := by decide
example : (forceLeave (Node.init "self" {}) "self" true 0).1.pending = [2] ∧
    (Node.init "self" {}).clock = 1 ∧ (forceLeave (Node.init "self" {}) "self" true 0).2.queued = [] := by decide

/-- the same when a push/pull merge lists the local node among the left members (together with
any other names): the claim time is `mergeClaim status self = StatusLTimes[self] + 1`; after the
whole merge a join with a greater time is pending and the own record is what it was -/
theorem C03_refutes_merge (n : Node) (lt wall t0 : Nat) (status : List (Name × Nat)) (left : List Name)
    (hl : n.life = .alive) (hmem : n.name ∈ left) (h0 : ltimeOf n n.name = some t0)
    (hnew : t0 < mergeClaim status n.name) (hmax : mergeClaim status n.name < two64 - 1) :
    (∃ t ∈ (merge n lt status left wall).1.pending, mergeClaim status n.name < t) ∧
    (∃ extra, (merge n lt status left wall).1.pending = n.pending ++ extra) ∧
    alookup (merge n lt status left wall).1.members n.name = alookup n.members n.name := by
  -- the merge as the intents it applies to `mergeStart n lt`, which is `n` up to the clock
  have hstep : (merge n lt status left wall).1 =
      (parts n (.merge lt status left wall)).2.foldl Claim.run (mergeStart n lt) := step_eq n (.merge lt status left wall)
  obtain ⟨c, hc⟩ := mergeStart_eq n lt
  rw [hstep, hc]
  have hleave : Claim.leave n.name (mergeClaim status n.name) false wall ∈ (parts n (.merge lt status left wall)).2 :=
    List.mem_append_left _ (List.mem_map.mpr ⟨n.name, hmem, rfl⟩)
  -- its join intents skip the names listed as left, the own one among them
  have hjoin : ∀ y lt' w', Claim.join y lt' w' ∈ (parts n (.merge lt status left wall)).2 → y ≠ n.name := by
    intro y lt' w' hy e
    rcases mem_parts_merge hy with ⟨_, _, e'⟩ | ⟨q, _, hq, e'⟩
    · cases e'
    · cases e'
      exact hq (e ▸ hmem)
  exact ⟨claims_refute _ { n with clock := c } _ t0 wall false hl hleave hjoin h0 hnew hmax,
    claims_pending _ { n with clock := c }, (claims_self _ { n with clock := c } hl hjoin).2.2⟩

example : (Node.init "self" {}).name ∈ ["b", "self"] ∧ mergeClaim [("self", 20), ("b", 1)] "self" = 21 := by decide
example : (merge (Node.init "self" {}) 3 [("self", 20), ("b", 1)] ["b", "self"] 0).1.pending = [22] ∧
    statusOf (merge (Node.init "self" {}) 3 [("self", 20), ("b", 1)] ["b", "self"] 0).1 "self" = some .alive := by
  decide

/-- the merge lists exactly the local node as left: exactly one join is spawned -/
theorem C03_refutes_merge_single (n : Node) (lt wall t0 : Nat) (status : List (Name × Nat))
    (hl : n.life = .alive) (h0 : ltimeOf n n.name = some t0)
    (hnew : t0 < mergeClaim status n.name) (hmax : mergeClaim status n.name < two64 - 1) :
    ∃ t, (merge n lt status [n.name] wall).1.pending = n.pending ++ [t] ∧ mergeClaim status n.name < t := by
  obtain ⟨m, hm, rfl⟩ := ltimeOf_eq_iff.mp h0
  obtain ⟨c, hc⟩ := mergeStart_eq n lt
  rw [merge_eq, hc]
  -- the join loop spawns nothing; the leave loop is the one claim, which is refuted
  rw [mergeJoins_pending]
  have h := hli_refute (n := { n with clock := c }) false wall hm hnew hl
  exact ⟨_, congrArg (fun r => r.1.pending) h, lt_witness hmax⟩

example : (merge (Node.init "self" {}) 3 [("self", 20)] ["self"] 0).1.pending = [22] := by decide

/-- the spawned join, when the scheduler runs it, queues exactly `join self t` -/
theorem C03_pending_runs (n : Node) (t : Nat) (rest : List Nat) (wall : Nat) (hp : n.pending = t :: rest) :
    (runPending n wall).2.queued = [Msg.join n.name t] ∧ (runPending n wall).1.pending = rest := by
  unfold runPending
  rw [hp]
  exact ⟨rfl, hji_pending _ _ _ _⟩

example : (runPending (handleLeaveIntent (Node.init "self" {}) "self" 7 true 0).1 0).2.queued = [Msg.join "self" 8] := by
  decide

/-- nothing that happens in between can cancel or change a spawned refutation: every other input
keeps the pending list as a prefix -/
theorem C03_pending_kept (n : Node) (op : Op) (h : ∀ w, op ≠ .runPending w) :
    ∃ extra, (step n op).1.pending = n.pending ++ extra := by
  rw [step_eq]
  obtain ⟨e, he⟩ := claims_pending (parts n op).2 (parts n op).1
  refine ⟨e, he.trans (congrArg (· ++ e) ?_)⟩
  cases op with
  | nodeJoin x => exact (hnj_bookOnly n x).pending
  | nodeLeave x a => exact (hnl_bookOnly n x a).pending
  | runPending w => exact absurd rfl (h w)
  | merge lt st lf w => simp only [parts]; split <;> rfl
  | leaveBegin w => simp only [parts]; split <;> rfl
  | leaveEnd => simp only [parts, leaveEnd]; split <;> rfl
  | _ => rfl

example : ∀ w, Op.shutdown ≠ .runPending w := by intro w h; cases h

/-- end to end: claim, then the scheduler runs the goroutine: a join of the local node with a time
greater than the claim is queued -/
theorem C03_refutes (n : Node) (lt wall w2 t0 : Nat) (prune : Bool) (hl : n.life = .alive) (hp : n.pending = [])
    (h0 : ltimeOf n n.name = some t0) (hnew : t0 < lt) (hmax : lt < two64 - 1) :
    ∃ t, lt < t ∧ (runPending (handleLeaveIntent n n.name lt prune wall).1 w2).2.queued = [Msg.join n.name t] := by
  obtain ⟨t, hpend, hlt, _, _⟩ := C03_refutes_gossip n lt wall t0 prune hl h0 hnew hmax
  rw [hp] at hpend
  have h := (C03_pending_runs (handleLeaveIntent n n.name lt prune wall).1 t [] w2 hpend).1
  rw [hli_name] at h
  exact ⟨t, hlt, h⟩

example : (Node.init "self" {}).pending = [] := by decide

/-- the boundary: a claim at the largest uint64 wraps the clock; the refuting join carries time 0,
which is NOT newer than the claim (recorded with the C19 clock-wrap finding) -/
theorem C03_claim_max_wraps :
    (handleLeaveIntent (Node.init "self" {}) "self" (two64 - 1) false 0).1.pending = [0] := by decide

/-- the same on any running node whose clock has not passed the claim: the spawned join has time 0 -/
theorem C03_claim_max_wraps_any (n : Node) (wall t0 : Nat) (prune : Bool) (hl : n.life = .alive)
    (h0 : ltimeOf n n.name = some t0) (hnew : t0 < two64 - 1) (hc : n.clock ≤ two64 - 1) :
    (handleLeaveIntent n n.name (two64 - 1) prune wall).1.pending = n.pending ++ [0] := by
  obtain ⟨m, hm, rfl⟩ := ltimeOf_eq_iff.mp h0
  rw [hli_refute prune wall hm hnew hl]
  have hw : witness n.clock (two64 - 1) = 0 := by
    unfold witness
    rw [if_neg (by omega)]
    decide
  rw [hw]

/-- **While a member has not begun leaving it always lists itself as alive** — for every history
from `Create` (any name, configuration) that contains no Leave, Shutdown or memberlist death notice of
the local node; every gossip / merge / force-leave / prune claim about it, every reaper tick and
every scheduling of the refuting goroutine is allowed.  `BookInv` is discharged by C15. -/
theorem C03_history_self_alive (name : Name) (cfg : Config) (ops : List Op)
    (hops : ∀ op ∈ ops, departs name op = false) :
    selfStatus (run (Node.init name cfg) ops) = some .alive ∧ (run (Node.init name cfg) ops).life = .alive := by
  apply C03_self_alive (Node.init name cfg) ops (SerfProofs.NodeBook.inv_init name cfg) rfl _ hops
  simp [selfStatus, statusOf, Node.init, alookup_cons]

/-- at every point of such a history (every prefix) -/
theorem C03_history_self_alive_prefix (name : Name) (cfg : Config) (ops : List Op) (k : Nat)
    (hops : ∀ op ∈ ops, departs name op = false) :
    selfStatus (run (Node.init name cfg) (ops.take k)) = some .alive :=
  (C03_history_self_alive name cfg (ops.take k) (fun op ho => hops op (List.mem_of_mem_take ho))).1

example : selfStatus (run (Node.init "self" {}) [.leaveMsg "self" 7 true 0, .runPending 0, .forceLeave "self" true 0,
    .merge 3 [("self", 40)] ["self"] 0, .reap 1000 (fun _ t => t), .runPending 0, .runPending 0]) = some .alive := by decide

end SerfProofs.C03
