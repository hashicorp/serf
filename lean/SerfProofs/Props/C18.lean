/-
C18 — User event coalescing keeps exactly the newest events per name.

Models: `SerfModel.UserCoalesce` (serf/coalesce_user.go) and `SerfModel.CoalesceLoop`
(serf/coalesce.go, `coalesceLoop`).  A *quantum* `q` is the list of coalescable
user events received since the previous flush, in arrival order.

`newest q nm` = the events of `q` named `nm` whose Lamport time is the highest one
received for `nm` in `q`, in arrival order (`SerfModel.UserCoalesce.newest`).
-/
import SerfProofs.Lemmas.UserCoalesce
import SerfProofs.Lemmas.CoalesceLoop
import SerfModel.Gen.Coalescers
namespace SerfProofs.C18
open SerfModel SerfModel.UserCoalesce SerfProofs.UserCoalesce
open SerfModel.CoalesceLoop SerfProofs.CoalesceLoop

/-- **Flush is exact, per name.** For every sequence of coalescable user events
(arbitrary names, times incl. ties and 0) a flush emits, for each name, exactly
the events carrying the highest Lamport time received for that name since the
previous flush, in arrival order — and nothing else for that name. -/
theorem C18_flush_exact (q : List UserEv) (nm : String) :
    (runQuantum [] q).2.filter (·.name == nm) = newest q nm := by
  have h := Rep.fold q [] [] Rep.nil
  simp only [List.nil_append] at h
  exact h.flush_filter nm

/-- Membership form: an event is emitted by the flush iff it was received in the
quantum and carries the highest time received for its name. -/
theorem C18_flush_mem (q : List UserEv) (e : UserEv) :
    e ∈ (runQuantum [] q).2 ↔ e ∈ q ∧ e.lt = maxLt q e.name := by
  have : e ∈ (runQuantum [] q).2 ↔ e ∈ (runQuantum [] q).2.filter (·.name == e.name) := by simp
  rw [this, C18_flush_exact]
  simp [newest]

/-- **Multiplicity.** Events are never merged, however alike: an event (name, time, flag,
payload) is emitted by the flush exactly as many times as it was received in the quantum if it
carries the highest time received for its name, and not at all otherwise.  In particular two
events equal in every field are both delivered. -/
theorem C18_flush_count (q : List UserEv) (e : UserEv) :
    (runQuantum [] q).2.count e = if e.lt = maxLt q e.name then q.count e else 0 := by
  rw [← List.count_filter (p := (·.name == e.name)) (by simp), C18_flush_exact, newest]
  split
  · rename_i h
    exact List.count_filter (by simp [h])
  · rename_i h
    exact List.count_eq_zero.mpr fun hm => h (by simpa using (List.mem_filter.mp hm).2)

-- two events equal in every field, and the nil / empty payload pair (ids 2^64, 2^64+1): all are kept
example : (runQuantum [] [⟨"a", 2, true, 7⟩, ⟨"a", 2, true, 7⟩, ⟨"a", 2, true, 18446744073709551616⟩,
    ⟨"a", 2, true, 18446744073709551617⟩, ⟨"a", 1, true, 7⟩]).2
    = [⟨"a", 2, true, 7⟩, ⟨"a", 2, true, 7⟩, ⟨"a", 2, true, 18446744073709551616⟩, ⟨"a", 2, true, 18446744073709551617⟩] := by
  decide +kernel

/-- `Coalesce` as the trial change `seeded/C18-e` writes it — an event of the same age is skipped when the
entry already holds one with an equal payload — is a different function: it loses the second of two equal
events. -/
def coalesceSkippingEqualPayload (c : UC) (e : UserEv) : UC :=
  match alookup c e.name with
  | none => ainsert c e.name (e.lt, [e])
  | some (lt, evs) =>
    if lt < e.lt then ainsert c e.name (e.lt, [e])
    else if lt = e.lt then (if evs.any (·.id == e.id) then c else ainsert c e.name (lt, evs ++ [e]))
    else c

theorem C18_skipping_equal_payloads_counterexample :
    (flush ([⟨"a", 2, true, 7⟩, ⟨"a", 2, true, 7⟩].foldl coalesceSkippingEqualPayload [])).2 = [⟨"a", 2, true, 7⟩] ∧
    (runQuantum [] [⟨"a", 2, true, 7⟩, ⟨"a", 2, true, 7⟩]).2 = [⟨"a", 2, true, 7⟩, ⟨"a", 2, true, 7⟩] := by decide

/-- **Flush resets**: the next quantum starts from the empty coalescer. -/
theorem C18_flush_resets (c : UC) : (flush c).1 = [] := rfl

theorem C18_quantum_resets (c : UC) (q : List UserEv) : (runQuantum c q).1 = [] := rfl

/-- **Every flush of a history, split at any flush points**: the i-th flush emits
per name exactly the newest events of the i-th quantum. -/
theorem C18_quanta_exact (quanta : List (List UserEv)) (nm : String) :
    (runQuanta [] quanta).2.map (·.filter (·.name == nm)) = quanta.map (newest · nm) := by
  induction quanta with
  | nil => simp [runQuanta]
  | cons q qs ih =>
    simp only [runQuanta, List.map_cons, C18_quantum_resets]
    rw [ih, C18_flush_exact]

/-- The coalescable user events among a run of loop inputs. -/
def handledUsers : List Ev → List UserEv
  | [] => []
  | .user u :: r => if u.coalesce then u :: handledUsers r else handledUsers r
  | .other _ :: r => handledUsers r

theorem fold_handled (evs : List Ev) (c : UC) :
    (evs.filter handles).foldl userCoalescer.coalesce c = (handledUsers evs).foldl coalesce c := by
  fun_induction handledUsers evs generalizing c with
  | case1 => rfl
  | case2 u r hu ih => simp only [List.filter_cons, handles, hu, ↓reduceIte, List.foldl_cons]; exact ih _
  | case3 u r hu ih => simp only [List.filter_cons, handles, hu]; exact ih _
  | case4 i r ih => exact ih c

/-- **Pass-through, one step.** A user event not marked coalescable, or an event of
any other kind, is sent on by the step that received it — alone, unchanged, with
the coalescer state and timers untouched — whatever the loop state (while the loop
runs). -/
theorem C18_passthrough_step (s : St userCoalescer) (hs : s.done = false) (e : Ev) (h : handles e = false) :
    step userCoalescer s (.ev e) = (s, [e]) :=
  step_unhandled userCoalescer s hs e h

/-- **Pass-through, any history.** In every run of the loop from its start, over any
sequence of inputs (events, timer firings), an unhandled event at position
`pre.length` produces exactly itself as that step's output, provided the loop has
not been shut down before. It is not held back until a flush. -/
theorem C18_passthrough (pre post : List (In Ev)) (e : Ev) (h : handles e = false)
    (hns : pre.any isShutdown = false) :
    (run userCoalescer (init userCoalescer) (pre ++ .ev e :: post)).2[pre.length]? = some [e] := by
  have hl := run_length userCoalescer pre (init userCoalescer)
  rw [run_append, List.getElem?_append_right (by omega)]
  simp [hl, run, C18_passthrough_step _ (run_init_running _ pre hns) e h]

/-- Unhandled events are never part of a flush. -/
theorem C18_flush_only_handled (c : UC) (e : Ev) (he : e ∈ (userCoalescer.flush c).2) :
    ∃ u, e = .user u := by
  simp only [userCoalescer, List.mem_map] at he
  obtain ⟨u, _, rfl⟩ := he
  exact ⟨u, rfl⟩

/-- After a timer-triggered flush the loop is back in its initial state: the next
quantum starts empty with both timers off. -/
theorem C18_loop_flush_restarts (s : St userCoalescer) (hs : s.done = false) :
    (s.quantum = true → (step userCoalescer s .quantum).1 = init userCoalescer) ∧
    (s.quiescent = true → (step userCoalescer s .quiescent).1 = init userCoalescer) := by
  constructor
  · intro ha; rw [step_flush _ _ hs .quantum rfl ha]; rfl
  · intro ha; rw [step_flush _ _ hs .quiescent rfl ha]; rfl

/-- **The loop's flush is the coalescer's flush of the quantum.** Starting from the
beginning of a quantum (the loop's initial state, which is also its state after
every non-shutdown flush, `C18_loop_flush_restarts`), after any run of events the
next enabled trigger `t` (quantum timer, quiescent timer or shutdown) emits
exactly `Flush` of the coalescable user events of the run; every other event of
the run was passed through at its own step. -/
theorem C18_loop_flush (evs : List Ev) (t : In Ev)
    (ht : t = .shutdown ∨ ((t = .quantum ∨ t = .quiescent) ∧ evs.any handles = true)) :
    (run userCoalescer (init userCoalescer) (evs.map .ev ++ [t])).2 =
      evs.map (fun e => if handles e then [] else [e]) ++
        [(runQuantum [] (handledUsers evs)).2.map Ev.user] := by
  have hev : isEv t = false := by rcases ht with rfl | ⟨rfl | rfl, _⟩ <;> rfl
  rw [run_append, run_events userCoalescer evs (init userCoalescer) rfl]
  simp only [run]
  rw [step_flush _ _ rfl t hev]
  · exact congrArg (fun c => evs.map (fun e => if handles e then [] else [e]) ++ [(flush c).2.map Ev.user])
      (fold_handled evs [])
  · -- a timer is armed because the run held a coalescable event
    rcases ht with rfl | ⟨rfl | rfl, ha⟩ <;> simp_all [enabled, userCoalescer]

/-- Per name, what the loop's flush trigger emits is exactly the newest events. -/
theorem C18_loop_flush_exact (evs : List Ev) (nm : String) :
    ((runQuantum [] (handledUsers evs)).2.filter (·.name == nm)) = newest (handledUsers evs) nm :=
  C18_flush_exact _ nm

/-- A timer that is not armed does nothing (nothing is flushed spuriously). -/
theorem C18_timer_disarmed (s : St userCoalescer) :
    (s.quantum = false → step userCoalescer s .quantum = (s, [])) ∧
    (s.quiescent = false → step userCoalescer s .quiescent = (s, [])) :=
  ⟨fun h => step_idle _ s .quantum (.inr h), fun h => step_idle _ s .quiescent (.inr h)⟩

/-- The coalescable user events the loop has taken since its last flush, after a sequence of
inputs (an armed timer or a shutdown flushes; a timer that is not armed finds nothing pending). -/
def pendAfter : List UserEv → List (In Ev) → List UserEv
  | p, [] => p
  | p, .ev (.user u) :: r => if u.coalesce then pendAfter (p ++ [u]) r else pendAfter p r
  | p, .ev (.other _) :: r => pendAfter p r
  | _, .quantum :: r => pendAfter [] r
  | _, .quiescent :: r => pendAfter [] r
  | _, .shutdown :: r => pendAfter [] r

theorem pendAfter_cons (p : List UserEv) (i : In Ev) (r : List (In Ev)) :
    pendAfter p (i :: r) = pendAfter (pendAfter p [i]) r := by
  cases i with
  | ev e =>
    cases e with
    | user u => cases hu : u.coalesce <;> simp [pendAfter, hu]
    | other k => rfl
  | _ => rfl

/-- Invariant of the running loop: the coalescer represents exactly the pending events, and both
timers are armed iff something is pending. -/
def LoopInv (s : St userCoalescer) (p : List UserEv) : Prop :=
  s.done = false ∧ Rep s.c p ∧ s.quantum = !p.isEmpty ∧ s.quiescent = !p.isEmpty

theorem loopInv_init : LoopInv (init userCoalescer) [] := ⟨rfl, Rep.nil, rfl, rfl⟩

theorem LoopInv.idle {s : St userCoalescer} {p : List UserEv} (h : LoopInv s p) {t : In Ev}
    (ht : s.done = true ∨ enabled s t = false) : p = [] := by
  obtain ⟨hd, _, hq, hqs⟩ := h
  cases t <;> simp_all [enabled]

theorem loopInv_step (s : St userCoalescer) (p : List UserEv) (h : LoopInv s p) (i : In Ev)
    (hi : isShutdown i = false) : LoopInv (step userCoalescer s i).1 (pendAfter p [i]) := by
  have hit := iter userCoalescer s i
  generalize step userCoalescer s i = r at hit
  cases hit with
  | idle i hidle =>
    obtain rfl := h.idle hidle
    cases i with
    | ev e => simp [h.1, enabled] at hidle
    | _ => exact h
  | pass e hd hh =>
    cases e with
    | user u => simpa [pendAfter, show u.coalesce = false from hh] using h
    | other k => exact h
  | absorb e hd hh =>
    cases e with
    | user u =>
      obtain ⟨_, hrep, _, _⟩ := h
      simpa [pendAfter, show u.coalesce = true from hh] using ⟨hd, hrep.step u, by simp, by simp⟩
    | other k => simp [userCoalescer, handles] at hh
  | flush _ hd ht =>
    have : pendAfter p [i] = [] := by cases i <;> simp_all [pendAfter, isEv]
    rw [this]
    exact ⟨hi, Rep.nil, rfl, rfl⟩

theorem loopInv_run (pre : List (In Ev)) : ∀ (s : St userCoalescer) (p : List UserEv), LoopInv s p →
    pre.any isShutdown = false → LoopInv (run userCoalescer s pre).1 (pendAfter p pre) := by
  induction pre with
  | nil => intro s p h _; exact h
  | cons i pre ih =>
    intro s p h hns
    simp only [List.any_cons, Bool.or_eq_false_iff] at hns
    rw [pendAfter_cons]
    exact ih _ _ (loopInv_step s p h i hns.1) hns.2

/-- **Every interleaving, events.** After ANY sequence of inputs (events of any names, Lamport
times and flags, timer firings at any points; no shutdown yet), the next event is absorbed
silently iff it is a coalescable user event, and is otherwise the step's whole output, unchanged. -/
theorem C18_loop_history_event (pre : List (In Ev)) (hns : pre.any isShutdown = false) (e : Ev) :
    (step userCoalescer (run userCoalescer (init userCoalescer) pre).1 (.ev e)).2 =
      if handles e then [] else [e] := by
  have hd := run_init_running userCoalescer pre hns
  cases h : handles e with
  | true => rw [step_handled _ _ hd _ h]; rfl
  | false => rw [step_unhandled _ _ hd _ h]; rfl

/-- **Every interleaving, flushes.** After ANY sequence of inputs, a quantum timer, quiescent timer
or shutdown emits only user events, and for EVERY name exactly the events carrying the highest
Lamport time received for that name since the previous flush, in arrival order (`newest`), where
"since the previous flush" is `pendAfter [] pre`; in particular a timer with nothing pending
emits nothing. -/
theorem C18_loop_history_flush (pre : List (In Ev)) (hns : pre.any isShutdown = false) (t : In Ev)
    (ht : t = .quantum ∨ t = .quiescent ∨ t = .shutdown) :
    ∃ out : List UserEv,
      (step userCoalescer (run userCoalescer (init userCoalescer) pre).1 t).2 = out.map Ev.user ∧
      ∀ nm, out.filter (·.name == nm) = newest (pendAfter [] pre) nm := by
  have hinv := loopInv_run pre _ _ loopInv_init hns
  have hit := iter userCoalescer (run userCoalescer (init userCoalescer) pre).1 t
  generalize step userCoalescer (run userCoalescer (init userCoalescer) pre).1 t = r at hit
  cases hit with
  | idle _ hidle => exact ⟨[], rfl, fun nm => by rw [hinv.idle hidle]; rfl⟩
  | pass e => simp at ht
  | absorb e => simp at ht
  | flush => exact ⟨_, rfl, fun nm => hinv.2.1.flush_filter nm⟩

/-- A timer is armed exactly while something is pending: nothing is held without a flush being
scheduled, and no flush fires on an empty coalescer. -/
theorem C18_timers_armed_iff_pending (pre : List (In Ev)) (hns : pre.any isShutdown = false) :
    (run userCoalescer (init userCoalescer) pre).1.quantum = !(pendAfter [] pre).isEmpty ∧
    (run userCoalescer (init userCoalescer) pre).1.quiescent = !(pendAfter [] pre).isEmpty :=
  (loopInv_run pre _ _ loopInv_init hns).2.2

/-- After the shutdown flush the goroutine has returned: nothing is emitted any more, whatever
arrives (this is why `C18_passthrough` and the theorems above need "no shutdown before"). -/
theorem C18_after_shutdown_silent (pre post : List (In Ev)) (i : In Ev) :
    (step userCoalescer (run userCoalescer (init userCoalescer) (pre ++ .shutdown :: post)).1 i).2 = [] := by
  rw [step_idle _ _ i (.inl (by rw [run_done]; simp [isShutdown]))]

/-! ### Ties to serf/coalesce_user.go and serf/coalesce.go (regenerated on every run) -/

section SourceTies
open SerfModel.CoalesceShapes SerfModel.Gen.Coalescers

/-- every comparison of two different times, whichever way round the source writes it -/
theorem cmp_of_lt {a b : Nat} (h : a < b) :
    (a < b ∧ ¬ b < a ∧ a ≤ b ∧ ¬ b ≤ a ∧ a ≠ b ∧ b ≠ a) ∧
    (a == b) = false ∧ (b == a) = false ∧ (a != b) = true ∧ (b != a) = true := by
  have h1 : a ≠ b := by omega
  have h2 : b ≠ a := by omega
  exact ⟨⟨h, by omega, by omega, by omega, h1, h2⟩, by simp [h1, h2]⟩

/-- **`Coalesce`, interpreted.**  The body of `userEventCoalescer.Coalesce` — its guards translated
from the source and evaluated (with Go's short-circuit, so the entry is never dereferenced when
absent), its two actions (a fresh one-element entry stored under the name; append to the entry) —
computes exactly the model's `coalesce`, on every state and event: no entry or strictly newer ⇒
replace the whole slice; equal time ⇒ append; older ⇒ nothing.  Independent of variable names,
of early-return vs if/else, of the orientation of the guards. -/
theorem C18_coalesce_is_source_program (c : UC) (e : UserEv) :
    runU userCoalesceProg c e = some (coalesce c e) := by
  unfold coalesce
  cases h : alookup c e.name with
  | none =>
    -- the simp lemmas that do not fire on the guards as the source spells them are there for their other spellings
    simp [userCoalesceProg, runU, Cond.eval, natOps, userEnvB, userEnvV, h]
  | some v =>
    obtain ⟨lt, evs⟩ := v
    rcases Nat.lt_trichotomy lt e.lt with h1 | h1 | h1
    · simp [userCoalesceProg, runU, Cond.eval, natOps, userEnvB, userEnvV, h, cmp_of_lt h1]
    · subst h1
      simp [userCoalesceProg, runU, Cond.eval, natOps, userEnvB, userEnvV, h]
    · simp [userCoalesceProg, runU, Cond.eval, natOps, userEnvB, userEnvV, h, cmp_of_lt h1]

/-- `Flush` sends every stored event, name by name, each name's slice front to back, and then
replaces the map by an empty one (`flush c = ([], c.flatMap (·.2.2))`): nothing — not even a
Lamport time — survives a flush. -/
theorem C18_flush_shape :
    userFlushStmts =
      ["range r.events { range r.events[*].Events { p0 <- r.events[*].Events[*] } }",
       "r.events = make(map[string]*latestUserEvents)"] := rfl

/-- **`Handle`, interpreted**: for a user event the result is its Coalesce flag, for any other event
type it is false — and the type assertion is never evaluated on a non-user event (`handles`). -/
theorem C18_handle_is_source_program :
    (∀ flag : Bool, userHandleProg.evalBool natOps (handleEnvB (some flag)) (handleEnvV 5) = some flag) ∧
    (∀ k : MemberCoalesce.Kind, userHandleProg.evalBool natOps (handleEnvB none) (handleEnvV (kindCode k)) = some false) ∧
    userHandleProg.evalBool natOps (handleEnvB none) (handleEnvV 6) = some false := by
  -- one evaluation by the kernel for all eight cases (as in `C17_handle_is_source_program`)
  have h : (∀ flag : Bool, userHandleProg.evalBool natOps (handleEnvB (some flag)) (handleEnvV 5) = some flag) ∧
      (∀ k ∈ [MemberCoalesce.Kind.join, .leave, .failed, .update, .reap],
        userHandleProg.evalBool natOps (handleEnvB none) (handleEnvV (kindCode k)) = some false) ∧
      userHandleProg.evalBool natOps (handleEnvB none) (handleEnvV 6) = some false := by decide +kernel
  exact ⟨h.1, fun k => h.2.1 k (by cases k <;> simp), h.2.2⟩

/-- **`coalesceLoop`, case by case** — what `SerfModel.CoalesceLoop.step` mirrors, in canonical
names (p0 inCh, p1 outCh, p2 shutdownCh, p3 coalescePeriod, p4 quiescentPeriod, p5 the coalescer;
v0 quiescent, v1 quantum, v2 shutdown, v3 the event): an unhandled event is sent on and the loop
continues; a handled one arms the quantum timer only if it is not running, re-arms the quiescent
timer always, and is coalesced; either timer and the shutdown jump to FLUSH (the shutdown setting
the flag first); INGEST clears both timers; FLUSH calls `Flush` on the output channel and restarts
unless shutting down.  The event case is INTERPRETED (`runL`): whatever its shape (early `continue`,
if/else, flipped test), an unhandled event is only forwarded, a handled one only arms, re-arms and
is coalesced. -/
theorem C18_loop_shape :
    runL loopEventProg false = some ["forward"] ∧
    runL loopEventProg true = some ["armQuantumIfIdle", "rearmQuiescent", "coalesce"] ∧
    loopCases =
      [("v3 := <-p0", ["EVENT"]),
       ("<-v1", ["goto FLUSH"]), ("<-v0", ["goto FLUSH"]), ("<-p2", ["v2 = true", "goto FLUSH"])] ∧
    loopIngest = ["v1 = nil", "v0 = nil", "for { select }"] ∧
    loopFlush = ["p5.Flush(p1)", "if !v2 { goto INGEST }"] ∧
    loopPrologue = ["var v0 <-chan time.Time", "var v1 <-chan time.Time", "v2 := false"] :=
  have h : runL loopEventProg false = some ["forward"] ∧
      runL loopEventProg true = some ["armQuantumIfIdle", "rearmQuiescent", "coalesce"] := by decide +kernel
  ⟨h.1, h.2, rfl, rfl, rfl, rfl⟩

end SourceTies

-- ties are kept in arrival order, older ones dropped, names independent, time 0 works
example : (runQuanta [] [[⟨"a", 1, true, 1⟩, ⟨"b", 0, true, 2⟩, ⟨"a", 2, true, 3⟩, ⟨"a", 1, true, 4⟩, ⟨"a", 2, true, 5⟩,
    ⟨"b", 0, true, 6⟩], [], [⟨"a", 1, true, 7⟩]]).2
    = [[⟨"a", 2, true, 3⟩, ⟨"a", 2, true, 5⟩, ⟨"b", 0, true, 2⟩, ⟨"b", 0, true, 6⟩], [], [⟨"a", 1, true, 7⟩]] := by decide +kernel

example : newest [⟨"a", 1, true, 1⟩, ⟨"a", 2, true, 3⟩, ⟨"a", 1, true, 4⟩, ⟨"a", 2, true, 5⟩] "a"
    = [⟨"a", 2, true, 3⟩, ⟨"a", 2, true, 5⟩] := by decide +kernel

-- C18_passthrough: hypotheses satisfiable, with a pending coalesced event in front
example : handles (.user ⟨"a", 5, false, 9⟩) = false ∧
    ([In.ev (.user ⟨"a", 1, true, 1⟩), .quiescent, .ev (.other 3)] : List (In Ev)).any isShutdown = false := by decide +kernel

example : (run userCoalescer (init userCoalescer)
    [.ev (.user ⟨"a", 1, true, 1⟩), .ev (.user ⟨"a", 5, false, 9⟩), .ev (.other 3), .quantum, .quantum, .shutdown, .ev (.other 4)]).2
    = [[], [.user ⟨"a", 5, false, 9⟩], [.other 3], [.user ⟨"a", 1, true, 1⟩], [], [], []] := by decide +kernel

-- C18_loop_flush: both shapes of the trigger hypothesis are satisfiable
example : ([Ev.user ⟨"a", 1, true, 1⟩, .other 2]).any handles = true := by decide +kernel

-- C18_loop_history_*: timers between events, two names, ties, an older event, an unarmed timer
example : pendAfter [] [.ev (.user ⟨"a", 1, true, 1⟩), .quiescent, .ev (.user ⟨"a", 3, true, 2⟩), .ev (.other 9),
    .ev (.user ⟨"b", 0, true, 3⟩), .ev (.user ⟨"a", 2, true, 4⟩), .ev (.user ⟨"a", 3, true, 5⟩), .ev (.user ⟨"a", 9, false, 6⟩)]
    = [⟨"a", 3, true, 2⟩, ⟨"b", 0, true, 3⟩, ⟨"a", 2, true, 4⟩, ⟨"a", 3, true, 5⟩] := by decide +kernel

example : (run userCoalescer (init userCoalescer)
    [.quantum, .ev (.user ⟨"a", 1, true, 1⟩), .quiescent, .ev (.user ⟨"a", 3, true, 2⟩), .ev (.other 9),
     .ev (.user ⟨"b", 0, true, 3⟩), .ev (.user ⟨"a", 2, true, 4⟩), .ev (.user ⟨"a", 3, true, 5⟩),
     .ev (.user ⟨"a", 9, false, 6⟩), .quantum, .quiescent]).2
    = [[], [], [.user ⟨"a", 1, true, 1⟩], [], [.other 9], [], [], [], [.user ⟨"a", 9, false, 6⟩],
       [.user ⟨"a", 3, true, 2⟩, .user ⟨"a", 3, true, 5⟩, .user ⟨"b", 0, true, 3⟩], []] := by decide +kernel

end SerfProofs.C18
