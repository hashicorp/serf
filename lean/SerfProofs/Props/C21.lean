/-
C21 — Round-trip time estimates follow the documented formula.

Model: `distanceTo` / `distSeconds` / `distanceNs` of SerfModel/Model/Coord.lean (coordinate/coordinate.go:123-143).
`SerfModel.Gen.CoordFormula.code` and `.docs` are REGENERATED on every check from coordinate/coordinate.go and from
the Go example in docs/internals/coordinates.html.markdown; the theorems below tie both to the model, so a drift
between the code, the documentation and the model breaks the build.

Formula, dimension error, docs = code and symmetry (exact, for every arithmetic with a commutative `+` and exact
negation) are proved at full strength.  Left out or partial:
* "up to floating-point rounding" is proved over an abstract rounding model, for the scalar part, under explicit
  magnitude and margin hypotheses (necessary: the formula is discontinuous at the guard); the rounding of the
  Euclidean part itself stays validated-only (monitor, exact rational reference);
* non-negativity holds unless the int64 conversion overflows (`C21_nonneg_partial`); with the property's own
  quantifier ("any adjustments") the overflow is reachable: `C21_nonneg_counterexample` (recorded finding).
-/
import SerfProofs.Lemmas.Coord
import SerfProofs.Lemmas.ERatLaws
import SerfProofs.Lemmas.Rounding
import SerfModel.Gen.CoordFormula
import SerfModel.Gen.CoordPurity
namespace SerfProofs.C21
open SerfModel SerfModel.Coord FloatLike
open SerfModel.Gen.CoordFormula (code docs)

variable {F : Type} [FloatLike F]

/-- the documented formula, spelled out: Euclidean norm of the difference plus both heights, plus both adjustments
when that is positive -/
def documented (a b : Coordinate F) : F :=
  let d := add (sqrt ((diffv a.vec b.vec).foldl (fun s x => add s (mul x x)) zero)) (add a.height b.height)
  let adj := add d (add a.adjustment b.adjustment)
  if lt zero adj then adj else d

/-- **C21 (formula).** For coordinates of equal dimension `DistanceTo` is the documented formula, converted with
`time.Duration(seconds * 1e9)` — in any arithmetic. -/
theorem C21_formula (a b : Coordinate F) (h : a.vec.length = b.vec.length) :
    distanceTo a b = .ok (toInt64 (mul (documented a b) nanos)) :=
  distanceTo_of_compat h

/-- 3-4-5: the estimate between (3,0) and (0,4) with heights 1 and 2 is 8 s -/
example : distanceTo (F := ERat) ⟨[.fin 3, .fin 0], .fin 1, .fin 0, .fin 1⟩ ⟨[.fin 0, .fin 4], .fin 1, .fin 0, .fin 2⟩
    = .ok 8000000000 := by decide +kernel

/-- the regenerated code tree denotes the model's seconds value … -/
theorem C21_code_tree_is_model (a b : Coordinate F) : code.seconds.eval a b = distSeconds a b := rfl

/-- … and its conversion and dimension check are the model's -/
theorem C21_code_tree_conv (a b : Coordinate F) (h : a.vec.length = b.vec.length) :
    distanceTo a b = .ok (code.evalNs a b) ∧ code.dimCheck = .panicDimensionalityConflict :=
  ⟨distanceTo_of_compat h, by decide⟩

/-- **C21 (documentation = code).** The seconds expression of the documented example is, node for node, the
expression the code computes. -/
theorem C21_docs_seconds_eq_code : docs.seconds = code.seconds := by decide

/-- so the formula of `C21_formula` is what the regenerated documentation tree evaluates to -/
theorem C21_docs_is_documented (a b : Coordinate F) : docs.seconds.eval a b = documented a b := by
  rw [C21_docs_seconds_eq_code]
  rfl

/-- … and the documented example converts the seconds value to a `time.Duration` exactly as the code does (scale,
then truncate). -/
theorem C21_docs_conversion_eq_code : docs.conv = code.conv ∧ code.conv = .scaleThenTruncate := by decide

/-- Regression witness for the other order, `time.Duration(rtt) * time.Second` (truncate, then scale; the documented
example before its repair): for 0.5 s it yields 0, the code's conversion 500 ms. -/
theorem C21_docs_conversion_old_counterexample :
    Conv.truncateThenScale.eval (ERat.div (.fin 1) (.fin 2)) = 0 ∧
    code.conv.eval (ERat.div (.fin 1) (.fin 2)) = 500000000 := by
  decide +kernel

/-! ### DistanceTo is a function of its two arguments

Every theorem of this file reads `DistanceTo` as a pure function of the two coordinates.  That is an assumption
about the code, made explicit here and tied by extraction: on the distance path (DistanceTo, IsCompatibleWith,
rawDistanceTo, diff, magnitude) no package-level variable of package coordinate is read or written, nothing is
assigned through a parameter or the receiver, and the callees are the known pure ones; a `go` statement, a function
literal or a channel send on that path is not a table entry: the extractor stops on it (extract/coordpurity.go).
With that, concurrent estimates (Client.DistanceTo only takes a read lock) cannot influence each other; the harness
op `conc` checks exactly this on the real code. -/

theorem C21_gen_distance_path_pure :
    SerfModel.Gen.CoordPurity.distancePath =
      [ { name := "DistanceTo", packageVars := [], writesIntoArguments := [],
          calls := ["panic", "time.Duration", "v0.IsCompatibleWith", "v0.rawDistanceTo"] },
        { name := "IsCompatibleWith", packageVars := [], writesIntoArguments := [], calls := ["len"] },
        { name := "rawDistanceTo", packageVars := [], writesIntoArguments := [], calls := ["diff", "magnitude"] },
        { name := "diff", packageVars := [], writesIntoArguments := [], calls := ["len", "make"] },
        { name := "magnitude", packageVars := [], writesIntoArguments := [], calls := ["math.Sqrt"] } ] := rfl

/-- the part of it the theorems rely on: no shared state, no writes into the arguments -/
theorem C21_gen_no_shared_state :
    SerfModel.Gen.CoordPurity.distancePath.all (fun t => t.packageVars.isEmpty && t.writesIntoArguments.isEmpty) = true := by
  decide

/-- **C21 (dimension).** `DistanceTo` on coordinates of different dimensions panics with
`DimensionalityConflictError{}` (an `error` value; coordinate.go:47-53,125) in both directions. -/
theorem C21_dim_error (a b : Coordinate F) (h : a.vec.length ≠ b.vec.length) :
    distanceTo a b = .dimensionalityConflict ∧ distanceTo b a = .dimensionalityConflict :=
  ⟨distanceTo_of_incompat h, distanceTo_of_incompat (Ne.symm h)⟩

example : ∃ a b : Coordinate ERat, a.vec.length ≠ b.vec.length := ⟨⟨[], .fin 0, .fin 0, .fin 0⟩, ⟨[.fin 0], .fin 0, .fin 0, .fin 0⟩, by decide⟩

theorem nn_distSeconds [LawfulFloatLike F] (a b : Coordinate F)
    (ha : le (zero : F) a.height = true) (hb : le (zero : F) b.height = true) : NN (distSeconds a b) := by
  have hraw : NN (rawDistanceTo a b) :=
    LawfulFloatLike.nn_add _ _ (LawfulFloatLike.nn_sqrt _) (LawfulFloatLike.nn_add _ _ (Or.inr ha) (Or.inr hb))
  simp only [distSeconds]
  by_cases h : gt (add (rawDistanceTo a b) (add a.adjustment b.adjustment)) (zero : F) = true
  · rw [if_pos h]; exact Or.inr (LawfulFloatLike.le_of_lt _ _ h)
  · rw [if_neg h]; exact hraw

/- FULL statement (not provable, see the counterexample below):
   theorem C21_nonneg (a b) : isValid a → isValid b → 0 ≤ a.height → 0 ≤ b.height → 0 ≤ distanceNs a b -/

/-- **C21 (non-negative), partial.** With non-negative heights the estimate is non-negative unless the conversion to
int64 nanoseconds overflowed (result -2^63).  Extra hypothesis: `NN nanos` is the fact 0 ≤ 1e9. -/
theorem C21_nonneg_partial [LawfulFloatLike F] (a b : Coordinate F) (hn : NN (nanos : F))
    (ha : le (zero : F) a.height = true) (hb : le (zero : F) b.height = true)
    (hno : distanceNs a b ≠ -9223372036854775808) : 0 ≤ distanceNs a b := by
  have h := LawfulFloatLike.toInt64_nn _ (LawfulFloatLike.nn_mul _ _ (nn_distSeconds a b ha hb) hn)
  rcases h with h | h
  · exact h
  · exact absurd h hno

example : NN (nanos : ERat) := Or.inr (by decide +kernel)

example : ∃ a b : Coordinate ERat, isValid a = true ∧ isValid b = true ∧ a.vec.length = b.vec.length ∧
    le (zero : ERat) a.height = true ∧ distanceNs a b ≠ -9223372036854775808 :=
  ⟨⟨[.fin 3, .fin 0], .fin 1, .fin 0, .fin 1⟩, ⟨[.fin 0, .fin 4], .fin 1, .fin 0, .fin 2⟩, by decide +kernel⟩

/-- a valid coordinate at the origin, height 0, adjustment 10^10 s -/
def cexA : Coordinate ERat := ⟨[.fin 0], .fin 0, .fin 10000000000, .fin 0⟩

/-- The overflow is reachable with valid coordinates whose components and heights are tiny and whose adjustments
are large (10^10 s each): the estimate is -2^63 ns.  Exact arithmetic, so this is not a rounding artefact. -/
theorem C21_nonneg_counterexample :
    isValid cexA = true ∧ le (zero : ERat) cexA.height = true ∧
    distanceTo cexA cexA = .ok (-9223372036854775808) := by decide +kernel

theorem foldl_sumsq_diff_comm [CommLaws F] (va vb : List F) (init : F) :
    (diffv va vb).foldl (fun s x => add s (mul x x)) init = (diffv vb va).foldl (fun s x => add s (mul x x)) init := by
  induction va generalizing vb init with
  | nil => cases vb <;> simp [diffv]
  | cons x xs ih =>
    cases vb with
    | nil => simp [diffv]
    | cons y ys =>
      simp only [diffv, List.zipWith_cons_cons, List.foldl_cons]
      rw [CommLaws.sub_sq_comm x y]
      exact ih ys _

/-- **C21 (symmetry, Euclidean part).** Under rounding the Euclidean norm of the difference is exactly symmetric,
because negation is exact. -/
theorem C21_symm_euclid [CommLaws F] (a b : Coordinate F) :
    magnitude (diffv a.vec b.vec) = magnitude (diffv b.vec a.vec) := by
  simp only [magnitude, sumsq]
  rw [foldl_sumsq_diff_comm a.vec b.vec zero]

/-- the seconds value is symmetric -/
theorem C21_symm_seconds [CommLaws F] (a b : Coordinate F) : distSeconds a b = distSeconds b a := by
  have hm := C21_symm_euclid a b
  have hraw : rawDistanceTo a b = rawDistanceTo b a := by
    simp only [rawDistanceTo, hm, CommLaws.add_comm a.height b.height]
  simp only [distSeconds, hraw, CommLaws.add_comm a.adjustment b.adjustment]

/-- **C21 (symmetry), FULL strength.** `DistanceTo` does not depend on which coordinate is the receiver: for EVERY
pair of coordinates (any dimensions, any values) and every arithmetic in which `+` is commutative and negation
is exact — in particular IEEE-754 doubles — d(a,b) = d(b,a) EXACTLY (0 ns, not 1 ns).  It rests on heights and
adjustments being summed first (4a3f085); the shape before associated the four scalars differently in the two
directions: `C21_symm_old_shape_counterexample`. -/
theorem C21_symm [CommLaws F] (a b : Coordinate F) : distanceTo a b = distanceTo b a := by
  by_cases h : a.vec.length = b.vec.length
  · rw [distanceTo_of_compat h, distanceTo_of_compat h.symm, distanceNs, distanceNs, C21_symm_seconds]
  · rw [distanceTo_of_incompat h, distanceTo_of_incompat (Ne.symm h)]

/-! ### rounding: an abstract model of floating-point arithmetic

`Rnd fl` (Lemmas/Rounding.lean) is exact rational arithmetic followed by a rounding function `fl` on every result; the
model code runs under it unchanged.  Assumed about `fl`: `RoundingLaw fl u`, i.e. |fl x - x| ≤ u·|x| and
fl(-x) = -fl x (the standard model; doubles: u = 2^-53), and that 10^9 is representable. -/

open SerfModel.Rounding

/-- **C21 (symmetry) under every rounding model.** `Rnd fl` satisfies `CommLaws` as soon as `fl` is odd, so the
estimate is exactly symmetric under any such rounding — the laws of `C21_symm` are not special to exact arithmetic. -/
theorem C21_symm_rounding {fl : Rat → Rat} {u : Rat} (h : RoundingLaw fl u) (a b : Coordinate (Rnd fl)) :
    distanceTo a b = distanceTo b a :=
  @C21_symm (Rnd fl) _ (commLaws_of_odd h.odd) a b

/-- **C21 (equals the documented formula up to rounding): within 1 ns**, for realistic magnitudes, away from the
guard's threshold.  Hypotheses, all explicit:
* `RoundingLaw fl u` with `8u ≤ 1`, 10^9 representable;
* magnitudes: the computed Euclidean part `m` and both heights in [0, K], both adjustments in [-K, K], K ≤ 10^8 s,
  and `100·u·K·10^9 ≤ 1` (doubles: K up to 9·10^4 s; the property's 10^4 s components give m ≤ 5.7·10^4 s);
* margin: the exact adjusted distance is farther than 32·u·K from 0.  WITHOUT the margin the claim is false for
  every rounding arithmetic, because the formula itself is discontinuous at 0 (the guard): an exact value of
  +10^-18 yields 0 ns while a rounded value of 0.0 yields the unadjusted distance.
Then the result differs by at most 1 ns from the exact formula (over the computed Euclidean part) truncated to ns.
What is NOT covered: the rounding error of the Euclidean part itself (n multiplications, n additions, one square
root); the missing lemma is `|fl-magnitude(v) - ‖v‖| ≤ (n/2+1)·u·‖v‖`, which needs a real square root that core
Lean does not have.  That part stays validated by the monitor's exact-rational reference. -/
theorem C21_accuracy_rounding {fl : Rat → Rat} {u K : Rat} (h : RoundingLaw fl u) (hu : 8 * u ≤ 1)
    (h9 : fl 1000000000 = 1000000000) (hK : 0 ≤ K) (hK8 : K ≤ 100000000)
    (hsmall : 100 * (u * K * 1000000000) ≤ 1)
    (a b : Coordinate (Rnd fl)) (m ha hb ja jb : Rat)
    (hm : magnitude (diffv a.vec b.vec) = R fl m)
    (hha : a.height = R fl ha) (hhb : b.height = R fl hb)
    (hja : a.adjustment = R fl ja) (hjb : b.adjustment = R fl jb)
    (hmag : Magnitudes K m ha hb ja jb) (hmar : Margin u K m ha hb ja jb) :
    distanceNs a b - (exactFormula m ha hb ja jb * 1000000000).floor ≤ 1 ∧
    (exactFormula m ha hb ja jb * 1000000000).floor - distanceNs a b ≤ 1 := by
  have hE := h.errBound hu hK
  have hc := computes_new hE hmag
  rw [distanceNs_R h hm hha hhb hja hjb]
  exact ns_accurate h hu h9 hK8 (hc.range hE) hsmall (hc.close hE hmar)

/-- **C21 (non-negative) for realistic magnitudes, FULL strength over the rounding model.**  With the computed
Euclidean part and both heights in [0, K], both adjustments in [-K, K] and K ≤ 10^8 s, the estimate is non-negative
(no margin hypothesis, no overflow hypothesis: the bound on the magnitudes excludes the int64 overflow of
`C21_nonneg_counterexample`, which needs adjustments of about 10^10 s). -/
theorem C21_nonneg_rounding {fl : Rat → Rat} {u K : Rat} (h : RoundingLaw fl u) (hu : 8 * u ≤ 1)
    (h9 : fl 1000000000 = 1000000000) (hK : 0 ≤ K) (hK8 : K ≤ 100000000)
    (a b : Coordinate (Rnd fl)) (m ha hb ja jb : Rat)
    (hm : magnitude (diffv a.vec b.vec) = R fl m)
    (hha : a.height = R fl ha) (hhb : b.height = R fl hb)
    (hja : a.adjustment = R fl ja) (hjb : b.adjustment = R fl jb)
    (hmag : Magnitudes K m ha hb ja jb) : 0 ≤ distanceNs a b := by
  rw [distanceNs_R h hm hha hhb hja hjb]
  exact ns_nonneg h hu h9 hK8 ((computes_new (h.errBound hu hK) hmag).range (h.errBound hu hK))

/-- **The former shape** (before the repair 4a3f085) under the same rounding model: away from the threshold the two
directions were within 1 ns of each other … -/
theorem C21_symm_old_shape_1ns {fl : Rat → Rat} {u K : Rat} (h : RoundingLaw fl u) (hu : 8 * u ≤ 1)
    (h9 : fl 1000000000 = 1000000000) (hK : 0 ≤ K) (hK8 : K ≤ 100000000)
    (hsmall : 100 * (u * K * 1000000000) ≤ 1) (m ha hb ja jb : Rat)
    (hmag : Magnitudes K m ha hb ja jb) (hmar : Margin u K m ha hb ja jb) :
    nsOf fl (distROld fl m ha hb ja jb) - nsOf fl (distROld fl m hb ha jb ja) ≤ 1 ∧
    nsOf fl (distROld fl m hb ha jb ja) - nsOf fl (distROld fl m ha hb ja jb) ≤ 1 := by
  have hE := h.errBound hu hK
  have hab := computes_old hE hmag
  have hba := computes_old_swap hE hmag
  exact ns_close h hu h9 hK8 (hab.range hE) hsmall (hba.range hE) ((hab.close hE hmar).symm.trans (hba.close hE hmar))

/-- … and AT the threshold they were not: a rounding function with relative error below 10^-16 (`fl0`: the identity
except at ±3/2) for which the former shape gives d(a,b) = 0 ns and d(b,a) = 2 s for the same two coordinates
(same position, heights 1 s, adjustments -1/2 s and -3/2 s), while the current shape gives 2 s both ways.  The
float64 instance of this defect, found by the monitor on the real code, is corpus/C21/guard-boundary-asymmetry.case
(d(a,b) = 100 ms, d(b,a) = 0 before the repair). -/
theorem C21_symm_old_shape_counterexample :
    RoundingLaw fl0 (1 / 10000000000000000) ∧
    nsOf fl0 (distROld fl0 0 1 1 (-(1 / 2)) (-(3 / 2))) = 0 ∧
    nsOf fl0 (distROld fl0 0 1 1 (-(3 / 2)) (-(1 / 2))) = 2000000000 ∧
    nsOf fl0 (distRNew fl0 0 1 1 (-(1 / 2)) (-(3 / 2))) = 2000000000 ∧
    nsOf fl0 (distRNew fl0 0 1 1 (-(3 / 2)) (-(1 / 2))) = 2000000000 :=
  ⟨fl0_law, by decide +kernel, by decide +kernel, by decide +kernel, by decide +kernel⟩

/-- non-vacuity of the rounding hypotheses: exact arithmetic (`fl = id`, u = 0) satisfies them, with K = 10^4 -/
example : RoundingLaw (fun x => x) 0 ∧ (8 : Rat) * 0 ≤ 1 ∧ (fun x : Rat => x) 1000000000 = 1000000000 ∧
    100 * ((0 : Rat) * 10000 * 1000000000) ≤ 1 ∧ Magnitudes 10000 5 1 2 (-1) 3 ∧ Margin 0 10000 5 1 2 (-1) 3 := by
  refine ⟨⟨by decide +kernel, fun x => ?_, fun x => rfl⟩, by decide +kernel, rfl, by decide +kernel,
    ⟨by decide +kernel, by decide +kernel, by decide +kernel, by decide +kernel, by decide +kernel⟩,
    Or.inl (by decide +kernel)⟩
  rw [Rat.sub_self, Rat.abs_zero, Rat.zero_mul]; exact Rat.le_refl

/-- non-vacuity of the coordinate-level hypotheses of `C21_accuracy_rounding` / `C21_nonneg_rounding`: the 3-4-5
pair under `fl = id`: Euclidean part 5, heights 1 and 2, adjustments -1 and 3 -/
example :
    let a : Coordinate (Rnd (fun x => x)) := ⟨[R _ 3, R _ 0], R _ 1, R _ (-1), R _ 1⟩
    let b : Coordinate (Rnd (fun x => x)) := ⟨[R _ 0, R _ 4], R _ 1, R _ 3, R _ 2⟩
    magnitude (diffv a.vec b.vec) = R _ 5 ∧ distanceNs a b = 10000000000 ∧ distanceNs b a = 10000000000 := by
  decide +kernel

/-- and a genuinely rounding one: `fl0` with u = 10^-16 and K = 10^4 -/
example : RoundingLaw fl0 (1 / 10000000000000000) ∧ fl0 1000000000 = 1000000000 ∧
    100 * ((1 / 10000000000000000 : Rat) * 10000 * 1000000000) ≤ 1 := ⟨fl0_law, by decide +kernel, by decide +kernel⟩

end SerfProofs.C21
