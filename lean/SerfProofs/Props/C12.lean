/-
C12 — Snapshot I/O failures never crash the node and recording resumes.

Model: `SerfModel.SnapshotFault` — the snapshotter of `SerfModel.Snapshot` with ONE
file-system operation failing (index `fault` among the operations that reach the OS;
NewSnapshotter's own open, operation 0, is not faulted: `fInit`):
`tryAppend`'s error path and its recovery compaction (at most one per
snapshotErrorRecoveryInterval), every early return of `compact()`, the sticky error of a
bufio writer, writes through a closed handle, remove of an already removed file.

`C12_no_panic` (every history incl. leave, forced compactions and the recovery interval elapsing;
every threshold, flag and fault index) is about the code shape `nilOnSwap := false` (serf e2c64f9:
compact() leaves the closed old handles in place until the new ones are installed); `nilOnSwap := true` and
`removeMissingFails := true` are the shapes before e2c64f9 and d3a31c2, kept for the regression
witnesses (by `decide`).

`C12_resumes`: once the fault lies in the past (`Consumed`), a compaction between two events
(`fCompact`, what the event `forceCompact` runs) makes every further history `evs2` and shutdown
end with the snapshot file replaying to exactly the memory at that shutdown.  The quiescent point
is the shutdown (its flush); in between, C10's invariant holds at every point (file ++ buffer
replays to the memory).  Of the recovery compaction that `tryAppend` starts by itself inside the
failing event it is proved that it runs (`C12_recovery_compaction_is_automatic`), succeeds and
installs fresh handles (`C12_compaction_succeeds_after_fault_partial`); the rest of that event and
the further history are not composed with it into one statement.  Hypotheses: `WFEv` (names
without newline — C10's open finding) and no graceful leave (C13's territory).
-/
import SerfProofs.Lemmas.SnapshotResume
namespace SerfProofs.C12
open SerfModel SerfModel.Snapshot SerfModel.SnapshotFault SerfProofs.SnapshotFault SerfProofs.Snapshot

/-- **No panic under any single I/O fault.** -/
theorem C12_no_panic (rj : Bool) (mc : Nat) (fault : Option Nat) (evs : List FEv) (clk : Nat) :
    (fLife rj mc fault evs clk).panicked = false :=
  (fShutdown_P _ clk (fRun_P evs _ (fInit_P rj mc fault))).panicked

/-- **Part of "recording resumes"**: once the single fault lies in the past (`Consumed`), on the
current code shape every compaction succeeds — in particular the recovery compaction that
`tryAppend` starts right after the failed append — and installs fresh handles; it keeps
succeeding afterwards (`Q` is preserved).  Hence no single-fault history makes the immediate
recovery attempt fail.  (That the compacted file replays to the in-memory state is
`C10_compact_restores_partial`.) -/
theorem C12_compaction_succeeds_after_fault_partial (st : FSnap) (h : Q st) :
    Q (fCompact st).1 ∧ (fCompact st).2 = .ok :=
  have c := fCompact_ok st h
  ⟨c.fine.q, c.ok⟩

/-- non-vacuity of `Q`: a fresh snapshotter with no fault planned -/
example : Q (fInit false 0 none) := ⟨⟨rfl, rfl, rfl⟩, rfl, Or.inl rfl⟩

/-- **Recording resumes** (see the header). `evs1`: the faulty phase; `k`: the fault index, already
consumed at the end of `evs1`; then a compaction, `evs2`, shutdown, restart. -/
theorem C12_resumes (rj : Bool) (mc : Nat) (k : Nat) (evs1 : List FEv) (evs2 : List Ev) (clk : Nat)
    (h1 : ∀ fe ∈ evs1, WFFEv fe) (h2 : ∀ e ∈ evs2, WFEv e) (hnl : Ev.leave ∉ evs2)
    (hcons : Consumed (fRun (fInit rj mc (some k)) evs1)) :
    (fShutdown (fRun (fCompact (fRun (fInit rj mc (some k)) evs1)).1 (evs2.map .ev)) clk).panicked = false ∧
    MapEq (recover rj (mfs (fShutdown (fRun (fCompact (fRun (fInit rj mc (some k)) evs1)).1 (evs2.map .ev)) clk))).alive
      (fShutdown (fRun (fCompact (fRun (fInit rj mc (some k)) evs1)).1 (evs2.map .ev)) clk).s.alive ∧
    (akeys (fShutdown (fRun (fCompact (fRun (fInit rj mc (some k)) evs1)).1 (evs2.map .ev)) clk).s.alive).Nodup ∧
    (recover rj (mfs (fShutdown (fRun (fCompact (fRun (fInit rj mc (some k)) evs1)).1 (evs2.map .ev)) clk))).clock =
      (fShutdown (fRun (fCompact (fRun (fInit rj mc (some k)) evs1)).1 (evs2.map .ev)) clk).s.lastClock ∧
    (recover rj (mfs (fShutdown (fRun (fCompact (fRun (fInit rj mc (some k)) evs1)).1 (evs2.map .ev)) clk))).eventClock =
      (fShutdown (fRun (fCompact (fRun (fInit rj mc (some k)) evs1)).1 (evs2.map .ev)) clk).s.lastEventClock ∧
    (recover rj (mfs (fShutdown (fRun (fCompact (fRun (fInit rj mc (some k)) evs1)).1 (evs2.map .ev)) clk))).queryClock =
      (fShutdown (fRun (fCompact (fRun (fInit rj mc (some k)) evs1)).1 (evs2.map .ev)) clk).s.lastQueryClock := by
  have hP := fRun_P evs1 _ (fInit_P rj mc (some k))
  have hM := fRun_mem rj evs1 _ (fInit_mem rj mc (some k)) (fInit_P rj mc (some k)) h1
  obtain ⟨hpan, hrec, hw⟩ :=
    resumes_after_compaction (fRun (fInit rj mc (some k)) evs1) ⟨hP, hM.shape, hcons⟩ hM.wf hM.leaving evs2 clk h2 hnl
  rw [hM.rejoin] at hrec
  exact ⟨hpan, hrec.fields hw⟩

/-- the recovery compaction needs no outside help: when an append fails and no recovery was
attempted during the last snapshotErrorRecoveryInterval, `tryAppend` itself runs the compaction -/
theorem C12_recovery_compaction_is_automatic (st : FSnap) (l : Bytes)
    (herr : (fAppendLine st l).2 = .err) (hatt : (fAppendLine st l).1.attempted = false) :
    fTryAppend st l = (fCompact { (fAppendLine st l).1 with attempted := true }).1 := by
  unfold fTryAppend
  simp only [herr, hatt, Bool.false_eq_true, ↓reduceIte]

/-- non-vacuity of `C12_resumes`: `user 5` on a fresh snapshotter with threshold 0 compacts at once;
fault 8 is the rename of that compaction (the window), the recovery compaction follows inside the
same `tryAppend`; afterwards the fault is consumed and the events are well formed -/
example : (∀ fe ∈ [FEv.ev (.user 5)], WFFEv fe) ∧ Consumed (fRun (fInit false 0 (some 8)) [FEv.ev (.user 5)]) ∧
    (∀ e ∈ [Ev.query 6, .join [(['a'], ['1', ':', '2'])] 2], WFEv e) ∧ Ev.leave ∉ [Ev.query 6, .join [(['a'], ['1', ':', '2'])] 2] := by
  refine ⟨?_, Or.inr ⟨8, by decide +kernel⟩, by decide, by decide⟩
  intro fe hfe
  rw [List.mem_singleton.mp hfe]
  exact ⟨by decide, by decide⟩

def cexEvs : List FEv := [.ev (.join [(['a'], ['1', ':', '2'])] 2), .ev .forceCompact, .ev (.clockTick 9)]

/-- **`nilOnSwap := true`** (serf before e2c64f9): join, a compaction, a clock tick; when the
compaction's remove (operation 8), rename (9) or reopen (10) fails, both handles are nil and the next append panics. -/
theorem C12_nil_handles_counterexample_oldshape :
    (fLife false 0 (some 8) cexEvs 9 true).panicked = true ∧ (fLife false 0 (some 8) cexEvs 9 true).failed = some (.remove .main) ∧
    (fLife false 0 (some 9) cexEvs 9 true).panicked = true ∧ (fLife false 0 (some 10) cexEvs 9 true).panicked = true ∧
    (fLife false 0 (some 7) cexEvs 9 true).panicked = false := by decide +kernel

/-- **`nilOnSwap := false`**: the same faults are survived, and the snapshot still holds the member. -/
theorem C12_nil_handles_fixed :
    ∀ k ∈ [8, 9, 10], (fLife false 0 (some k) cexEvs 9).panicked = false ∧
      (recover false (FS.applyAll {} (fLife false 0 (some k) cexEvs 9).done)).alive = [(['a'], ['1', ':', '2'])] := by decide +kernel

/-- the recorded history of the finding `fault-rename-never-recovers` (repaired in serf by d3a31c2):
`fault 8; new sync 0 0; user 5; query 6; join a; join b; gone failed a; user 9; shutdown 4` -/
def renameEvs : List FEv :=
  [.ev (.user 5), .ev (.query 6), .ev (.join [(['a'], ['1', ':', '2'])] 2), .ev (.join [(['b'], ['3', ':', '4'])] 3),
   .ev (.gone [['a']] 4), .ev (.user 9)]

/-- **`removeMissingFails := true`** (serf before d3a31c2): operation 8 is the rename of the first
threshold compaction; after it fails every later compaction stops at remove ("no such
file"), and the restart recovers only what the last attempt wrote to path.compact (event clock
5, query clock 6, no member) although the node knows `b`, clock 3, event clock 9. -/
theorem C12_rename_never_recovers_counterexample_oldshape :
    (fLife false 0 (some 8) renameEvs 4 false true).failed = some (.rename .tmp .main) ∧
    (fLife false 0 (some 8) renameEvs 4 false true).s.alive = [(['b'], ['3', ':', '4'])] ∧
    (fLife false 0 (some 8) renameEvs 4 false true).s.lastEventClock = 9 ∧
    (recover false (FS.applyAll {} (fLife false 0 (some 8) renameEvs 4 false true).done)).alive = [] ∧
    (recover false (FS.applyAll {} (fLife false 0 (some 8) renameEvs 4 false true).done)).eventClock = 5 := by decide +kernel

/-- **`removeMissingFails := false`**: the next compaction ignores the missing file, installs a new snapshot, and the
restart reflects everything the node knew. -/
theorem C12_rename_never_recovers_fixed :
    (fLife false 0 (some 8) renameEvs 4).failed = some (.rename .tmp .main) ∧
    (recover false (FS.applyAll {} (fLife false 0 (some 8) renameEvs 4).done)) =
      { alive := [(['b'], ['3', ':', '4'])], clock := 3, eventClock := 9, queryClock := 6 } := by decide +kernel

end SerfProofs.C12
