/-
C26 — Filtered member listings match whole names, statuses and tag values.

Model: `SerfModel.Regex`.  `filterMembers` / `compileAnchored` (the Go functions since 990828f:
validate the pattern alone, then wrap and compile) take the pattern engine as a parameter.

What is assumed about the engine (`EngineLaw`), for a parser `parse` of patterns:
  * `regexp.Compile(p)` succeeds exactly when `p` is a valid pattern (`parse p` is defined);
  * IF `p` is valid on its own, then `^(?:p)$` compiles and denotes `wrap (parse p)`.
NOTHING is assumed about `^(?:p)$` for a `p` that is not valid on its own — Go's `regexp`
happily compiles `^(?:a)|(?:b)$` for `p = a)|(?:b` — because the code rejects such `p`
before wrapping.  `escapingEngine` below satisfies the law AND has that escaping behaviour;
`C26_escape_counterexample` keeps the witness for the pre-990828f shape (paste, then compile).
The formal semantics is validated against Go's `regexp` by the `rx` differential of the harness.
-/
import SerfProofs.Lemmas.RegexSem
import SerfModel.Gen.AnchorTemplate
namespace SerfProofs.C26
open SerfModel SerfModel.Regex SerfProofs.Regex

/-- `Matches r w i j` (SerfProofs/Lemmas/RegexSem.lean) is the textbook inductive definition of
"`r` matches `w[i..j)`" with anchors; the executable `ends` — including the star's bounded
closure — computes exactly that relation.  So the anchoring theorem is a statement about the
standard semantics, not about an ad-hoc matcher.  (It holds from every position: `mem_ends_iff`
does without `hi`.) -/
theorem C26_matcher_correct (r : Regex) (w : List Char) (i j : Nat) (hi : i ≤ w.length) :
    j ∈ ends r w i ↔ Matches r w i j := mem_ends_iff r w i j

theorem C26_fullMatch_iff (r : Regex) (w : List Char) : fullMatch r w = true ↔ Matches r w 0 w.length := by
  unfold fullMatch
  rw [List.contains_iff_mem]
  exact mem_ends_iff r w 0 w.length

theorem C26_search_iff (r : Regex) (w : List Char) :
    search r w = true ↔ ∃ i j, i ≤ w.length ∧ Matches r w i j := by
  simp only [search, List.any_eq_true, List.mem_range, Nat.lt_succ_iff, Bool.not_eq_true',
    List.isEmpty_eq_false_iff_exists_mem]
  constructor
  · rintro ⟨i, hi, j, hj⟩
    exact ⟨i, j, hi, (mem_ends_iff r w i j).1 hj⟩
  · rintro ⟨i, j, hi, hm⟩
    exact ⟨i, hi, j, (mem_ends_iff r w i j).2 hm⟩

/-- **Anchoring, in the declarative semantics alone**: `^(?:r)$` matches somewhere in `w` iff
`r` matches all of `w` — `^` matches only at 0, `$` only at `|w|`. -/
theorem C26_anchor_declarative (r : Regex) (w : List Char) :
    (∃ i j, i ≤ w.length ∧ Matches (.cat .bot (.cat (.group r) .eot)) w i j) ↔ Matches r w 0 w.length := by
  constructor
  · rintro ⟨i, j, -, h⟩
    cases h with
    | cat _ _ _ _ _ _ hbot h =>
      cases hbot
      cases h with
      | cat _ _ _ _ _ _ hgroup heot =>
        cases heot
        cases hgroup with
        | group _ _ _ _ h => exact h
  · intro h
    exact ⟨0, w.length, Nat.zero_le _,
      .cat _ _ _ _ _ _ (.bot w) (.cat _ _ _ _ _ _ (.group _ _ _ _ h) (.eot w))⟩

/-- **Anchoring is sound and complete**: for EVERY regex `r` and word `w`, searching for
`^(?:r)$` anywhere in `w` succeeds iff `r` matches the whole of `w`. -/
theorem C26_anchor_sound (r : Regex) (w : List Char) :
    search (.cat .bot (.cat (.group r) .eot)) w = true ↔ fullMatch r w = true := by
  rw [C26_search_iff, C26_fullMatch_iff]
  exact C26_anchor_declarative r w

theorem search_wrap (r : Regex) (w : List Char) : search (wrap r) w = fullMatch r w :=
  Bool.eq_iff_iff.mpr (C26_anchor_sound r w)

example : Matches (.alt (.char 'a') (.star (.char 'b'))) "bb".toList 0 2 ∧
    ¬ Matches (.alt (.char 'a') (.star (.char 'b'))) "ab".toList 0 2 := by
  constructor
  · exact (C26_fullMatch_iff _ _).1 (by decide)
  · intro h; have := (C26_fullMatch_iff _ _).2 h; revert this; decide

/-- `compileAnchored` is: validate the pattern on its own, THEN compile it inside `^(?:%s)$`;
the member loop is: every requested tag read as `m.Tags[tag]` (missing = ""), the status filter
and the name filter each skipped when empty and matched against `m.Status.String()` / `m.Name`;
every requested tag value, the status and the name filter are compiled that way and every compile
error is returned at once with no list; `handleMembers` passes the request's Tags / Status / Name and
returns the filter's error right after the call.  (The translator works by meaning: names of locals,
parameters, receiver, label and helper, hoisted constants, Sprintf vs concatenation, loop forms,
nested vs `&&` guards, the order of the independent guards and error texts do not matter.) -/
theorem C26_shape :
    Gen.AnchorTemplate.shape = canonicalShape ∧
    Gen.AnchorTemplate.compilesAll = true ∧
    Gen.AnchorTemplate.handlerRequestFields = "Tags,Status,Name" ∧
    Gen.AnchorTemplate.handlerReturnsError = true :=
  ⟨rfl, rfl, rfl, rfl⟩

/-- What the members command documents (docs/commands/members.html.markdown, regenerated): the
`-status`, `-tag` (and deprecated `-role`) filters are "anchored at the start and end, and must be a
full match"; the `-name` paragraph only says "matching this regular expression" — the code (and the
property) anchor it like the others. -/
theorem C26_documented :
    Gen.AnchorTemplate.documentedFilters = [("-name", false), ("-role", true), ("-status", true), ("-tag", true)] :=
  rfl

theorem filterMembersS_canonical (e : Engine) (ms : List Member) (tags : List (String × String)) (status name : String) :
    filterMembersS canonicalShape e ms tags status name = filterMembers e ms tags status name := by
  have hc : ∀ p, compileWith canonicalShape.compile e p = compileAnchored e p := by
    intro p
    simp only [compileWith, canonicalShape, compileAnchored, List.all_cons, List.all_nil, Bool.and_true]
    cases e.validAlone p <;> simp
  have hp : ∀ m, (canonicalShape.guards.all (passes e tags status name m)) =
      ((tags.all fun tp => e.matchStr tp.2 (tagValue m tp.1)) &&
        (status == "" || e.matchStr status m.status) && (name == "" || e.matchStr name m.name)) := by
    simp [canonicalShape, passes, Bool.and_assoc]
  simp only [filterMembersS, filterMembers, hc, hp]

/-- **the translated code is the model**: what `filterMembers` of ipc.go does, read through the
regenerated shape, is `filterMembers` of `SerfModel.Regex` — so every theorem below is about the
code as extracted -/
theorem C26_code_is_model (e : Engine) (ms : List Member) (tags : List (String × String)) (status name : String) :
    filterMembersS Gen.AnchorTemplate.shape e ms tags status name = filterMembers e ms tags status name := by
  rw [C26_shape.1]; exact filterMembersS_canonical e ms tags status name

/-- what a pattern means on its own -/
def fullMatchP (parse : String → Option Regex) (p v : String) : Bool :=
  match parse p with
  | some r => fullMatch r v.toList
  | none => false

/-- The law assumed of the engine for the patterns of one request (see the file header). -/
def EngineLaw (e : Engine) (parse : String → Option Regex) (pats : List String) : Prop :=
  ∀ p ∈ pats, e.validAlone p = (parse p).isSome ∧
    ∀ r, parse p = some r → e.compilesWrapped p = true ∧ ∀ v, e.matchStr p v = search (wrap r) v.toList

def requested (tags : List (String × String)) (status name : String) : List String :=
  status :: name :: tags.map (·.2)

/-- an engine that satisfies the law by construction (non-vacuity of `EngineLaw`) -/
def formalEngine (parse : String → Option Regex) : Engine where
  validAlone p := (parse p).isSome
  compilesWrapped p := (parse p).isSome
  matchStr p v := match parse p with
    | some r => search (wrap r) v.toList
    | none => false

theorem formalEngine_law (parse : String → Option Regex) (pats : List String) :
    EngineLaw (formalEngine parse) parse pats := by
  intro p _
  refine ⟨rfl, fun r hr => ⟨by simp [formalEngine, hr], fun v => by simp [formalEngine, hr]⟩⟩

/-- An engine behaving like Go's on the escaping pattern: `a)|(?:b` is not valid alone, yet its
wrapped form compiles (to `(^(?:a))|((?:b)$)`) and matches inside `ax`.  It satisfies the law
too: the law does not speak about wrapped forms of patterns that are invalid alone. -/
def escapingEngine : Engine where
  validAlone p := p == "a|b" || p == ""
  compilesWrapped p := p == "a|b" || p == "" || p == "a)|(?:b"
  matchStr p v :=
    if p == "a|b" then search (wrap (.alt (.char 'a') (.char 'b'))) v.toList
    else if p == "" then search (wrap .empty) v.toList
    else if p == "a)|(?:b" then
      search (.alt (.cat .bot (.group (.char 'a'))) (.cat (.group (.char 'b')) .eot)) v.toList
    else false

def tinyParse (p : String) : Option Regex :=
  if p = "a|b" then some (.alt (.char 'a') (.char 'b')) else if p = "" then some .empty else none

theorem escapingEngine_law (pats : List String) : EngineLaw escapingEngine tinyParse pats := by
  intro p _
  unfold tinyParse
  split
  · next h =>
    subst h
    refine ⟨by decide, fun r hr => ?_⟩
    cases hr
    exact ⟨by decide, fun v => by simp [escapingEngine]⟩
  · split
    · next h0 =>
      subst h0
      refine ⟨by decide, fun r hr => ?_⟩
      cases hr
      exact ⟨by decide, fun v => by simp [escapingEngine]⟩
    · next h h0 => exact ⟨by simp [escapingEngine, h, h0], fun r hr => by cases hr⟩

/-- with that engine the filter rejects the escaping pattern (and the wrapped form,
had it been used unvalidated, would have listed `ax`) -/
example :
    filterMembers escapingEngine [⟨"a", "alive", []⟩, ⟨"ax", "alive", []⟩] [] "a|b" "a)|(?:b" = none ∧
    escapingEngine.compilesWrapped "a)|(?:b" = true ∧ escapingEngine.matchStr "a)|(?:b" "ax" = true := by decide +kernel

theorem all_congr_mem {α : Type} {l : List α} {p q : α → Bool} (h : ∀ a ∈ l, p a = q a) : l.all p = l.all q := by
  induction l with
  | nil => rfl
  | cons a l ih =>
    rw [List.all_cons, List.all_cons, h a List.mem_cons_self, ih fun b hb => h b (List.mem_cons_of_mem _ hb)]

theorem compileAnchored_eq {e : Engine} {parse : String → Option Regex} {pats : List String}
    (hl : EngineLaw e parse pats) (p : String) (hp : p ∈ pats) :
    compileAnchored e p = (parse p).isSome := by
  obtain ⟨h1, h2⟩ := hl p hp
  unfold compileAnchored
  cases hpp : parse p with
  | none => simp [h1, hpp]
  | some r => simp [h1, hpp, (h2 r hpp).1]

theorem matchStr_eq {e : Engine} {parse : String → Option Regex} {pats : List String}
    (hl : EngineLaw e parse pats) (p : String) (hp : p ∈ pats) (hv : (parse p).isSome = true) (v : String) :
    e.matchStr p v = fullMatchP parse p v := by
  obtain ⟨r, hr⟩ := Option.isSome_iff_exists.mp hv
  rw [fullMatchP, hr, ((hl p hp).2 r hr).2 v, search_wrap]

/-- The three compile guards of `filterMembers` are one test over the requested patterns; under the
law it is the test whether all of them are valid. -/
theorem filterMembers_law (e : Engine) (parse : String → Option Regex) (ms : List Member)
    (tags : List (String × String)) (status name : String)
    (hw : EngineLaw e parse (requested tags status name)) :
    filterMembers e ms tags status name =
      if (requested tags status name).all (fun p => (parse p).isSome) then
        some (ms.filter fun m =>
          (tags.all fun tp => e.matchStr tp.2 (tagValue m tp.1)) &&
          (status == "" || e.matchStr status m.status) &&
          (name == "" || e.matchStr name m.name))
      else none := by
  rw [← all_congr_mem (compileAnchored_eq hw)]
  simp only [filterMembers, requested, List.all_cons, List.all_map, Function.comp_def]
  cases (tags.all fun tp => compileAnchored e tp.2) <;> cases compileAnchored e status <;>
    cases compileAnchored e name <;> rfl

/-- **Exactness.**  All requested patterns valid ⇒ the list returned is exactly the members
whose name, status and every requested tag value (a missing tag counts as empty) are matched
over the WHOLE string; an empty status / name filter is "not requested". -/
theorem C26_filter_exact (e : Engine) (parse : String → Option Regex) (ms : List Member)
    (tags : List (String × String)) (status name : String)
    (hw : EngineLaw e parse (requested tags status name))
    (hvalid : ∀ p ∈ requested tags status name, (parse p).isSome = true) :
    filterMembers e ms tags status name = some (ms.filter fun m =>
      (tags.all fun tp => fullMatchP parse tp.2 (tagValue m tp.1)) &&
      (status == "" || fullMatchP parse status m.status) &&
      (name == "" || fullMatchP parse name m.name)) := by
  have hm : ∀ p ∈ requested tags status name, ∀ v, e.matchStr p v = fullMatchP parse p v :=
    fun p hp => matchStr_eq hw p hp (hvalid p hp)
  have hs : status ∈ requested tags status name := by simp [requested]
  have hn : name ∈ requested tags status name := by simp [requested]
  have ht : ∀ tp ∈ tags, tp.2 ∈ requested tags status name := by
    intro tp htp; simp only [requested, List.mem_cons, List.mem_map]; right; right; exact ⟨tp, htp, rfl⟩
  rw [filterMembers_law e parse ms tags status name hw, if_pos (List.all_eq_true.mpr hvalid)]
  congr 1
  apply List.filter_congr
  intro m _
  rw [hm status hs, hm name hn, all_congr_mem fun tp htp => hm _ (ht tp htp) _]

/-- **An invalid pattern yields an error and no list** (whichever filter carries it, also an
invalid status/name) — including patterns whose wrapped form the engine would compile. -/
theorem C26_invalid_pattern (e : Engine) (parse : String → Option Regex) (ms : List Member)
    (tags : List (String × String)) (status name : String)
    (hw : EngineLaw e parse (requested tags status name))
    (hinv : ∃ p ∈ requested tags status name, parse p = none) :
    filterMembers e ms tags status name = none := by
  obtain ⟨p, hp, hnone⟩ := hinv
  rw [filterMembers_law e parse ms tags status name hw, if_neg]
  intro hall
  have := List.all_eq_true.mp hall p hp
  rw [hnone] at this
  cases this

/-- non-vacuity of `C26_invalid_pattern`'s hypotheses: the escaping request -/
example : EngineLaw escapingEngine tinyParse (requested [] "a|b" "a)|(?:b") ∧
    ∃ p ∈ requested [] "a|b" "a)|(?:b", tinyParse p = none :=
  ⟨escapingEngine_law _, "a)|(?:b", by simp [requested], by decide⟩

/-- non-vacuity: a request with an alternation, the formal engine, a two-symbol parser -/
example : filterMembers (formalEngine fun p => if p = "a|b" then some (.alt (.char 'a') (.char 'b')) else if p = "" then some .empty else none)
    [⟨"a", "alive", []⟩, ⟨"ax", "alive", []⟩, ⟨"b", "alive", []⟩] [] "" "a|b"
    = some [⟨"a", "alive", []⟩, ⟨"b", "alive", []⟩] := by decide +kernel

/-- **Complete specification** (exactness and the error case in one statement, for every member
list and every filter set): under the engine law, the filter returns an error iff some requested
pattern (status and name count even when empty: `""` is a valid pattern) is invalid, and otherwise
exactly the members fully matched by every requested filter. -/
theorem C26_filter_spec (e : Engine) (parse : String → Option Regex) (ms : List Member)
    (tags : List (String × String)) (status name : String)
    (hw : EngineLaw e parse (requested tags status name)) :
    filterMembersS Gen.AnchorTemplate.shape e ms tags status name =
      if (requested tags status name).all (fun p => (parse p).isSome) then
        some (ms.filter fun m =>
          (tags.all fun tp => fullMatchP parse tp.2 (tagValue m tp.1)) &&
          (status == "" || fullMatchP parse status m.status) &&
          (name == "" || fullMatchP parse name m.name))
      else none := by
  rw [C26_code_is_model]
  split
  · next hall => exact C26_filter_exact e parse ms tags status name hw (List.all_eq_true.mp hall)
  · next hall =>
    obtain ⟨p, hp, hn⟩ := List.all_eq_false.mp (Bool.eq_false_iff.mpr hall)
    exact C26_invalid_pattern e parse ms tags status name hw ⟨p, hp, by simpa using hn⟩

example : filterMembersS Gen.AnchorTemplate.shape escapingEngine [⟨"a", "alive", []⟩, ⟨"ax", "alive", []⟩] [] "" "a|b"
    = some [⟨"a", "alive", []⟩] := by decide +kernel

/-- whatever the engine does, the reply is a sub-list of the members in their original order
(no member is invented, duplicated or reordered) -/
theorem C26_result_sublist (e : Engine) (ms : List Member) (tags : List (String × String)) (status name : String)
    (l : List Member) (h : filterMembersS Gen.AnchorTemplate.shape e ms tags status name = some l) :
    l.Sublist ms := by
  rw [C26_code_is_model] at h
  unfold filterMembers at h
  split at h
  · cases h
  · split at h
    · cases h
    · split at h
      · cases h
      · injection h with h; rw [← h]; exact List.filter_sublist

/-- Regression witness (seeded mutation C26-b): with the two-value map read
(`val, ok := m.Tags[tag]; !ok ⇒ skip`) a member that lacks a requested tag is dropped even when
the pattern matches the empty string; the canonical shape keeps it. -/
theorem C26_missing_tag_counterexample :
    let e := formalEngine fun p => if p = "" then some .empty else none
    let ms : List Member := [⟨"n1", "alive", [("role", "")]⟩, ⟨"n2", "alive", []⟩]
    filterMembersS { canonicalShape with guards := [.tags .presentOnly, .field .status true, .field .name true] }
        e ms [("role", "")] "" "" = some [⟨"n1", "alive", [("role", "")]⟩] ∧
    filterMembersS canonicalShape e ms [("role", "")] "" "" = some ms := by decide +kernel

/-- Regression witness (repaired in 990828f) at the level of the filter: without the
validate-alone step, an engine with Go's behaviour on `a)|(?:b` makes the filter return a list
(containing `ax`) where the canonical shape returns the error. -/
theorem C26_no_validation_counterexample :
    filterMembersS { canonicalShape with compile := [.wrap "^(?:%s)$"] } escapingEngine
        [⟨"a", "alive", []⟩, ⟨"ax", "alive", []⟩] [] "" "a)|(?:b" = some [⟨"a", "alive", []⟩, ⟨"ax", "alive", []⟩] ∧
    filterMembersS canonicalShape escapingEngine [⟨"a", "alive", []⟩, ⟨"ax", "alive", []⟩] [] "" "a)|(?:b" = none := by
  decide +kernel

/-- The engine law is needed: with an engine whose wrapped expression is NOT anchored (it
searches for `r` anywhere — what the pre-29833e4 template did for alternations) the same filter
lists `ax` for the name filter `a|b`. -/
theorem C26_engine_law_needed :
    let e : Engine := { validAlone := fun _ => true, compilesWrapped := fun _ => true,
                        matchStr := fun p v => if p == "a|b" then search (.alt (.char 'a') (.char 'b')) v.toList else true }
    filterMembersS Gen.AnchorTemplate.shape e [⟨"a", "alive", []⟩, ⟨"ax", "alive", []⟩] [] "" "a|b"
      = some [⟨"a", "alive", []⟩, ⟨"ax", "alive", []⟩] := by decide +kernel

/-- Regression witness (repaired in 29833e4): the old template `^%s$` applied to `a|b` is, by
precedence, `(^a)|(b$)`; it finds a match in `ax`, which `a|b` does not match as a whole. -/
theorem C26_unanchored_alt :
    search (.alt (.cat .bot (.char 'a')) (.cat (.char 'b') .eot)) "ax".toList = true ∧
    fullMatch (.alt (.char 'a') (.char 'b')) "ax".toList = false ∧
    search (wrap (.alt (.char 'a') (.char 'b'))) "ax".toList = false := by decide +kernel

/-- Regression witness (repaired in 990828f) for the OLD shape — paste the pattern into the
template, then compile, without validating it alone: the template applied to `a)|(?:b` reads
`^(?:a)|(?:b)$`, i.e. `(^(?:a))|((?:b)$)`: Go compiles it (although `a)|(?:b` alone is not a
valid pattern) and it matches inside `ax` and `xb`. -/
theorem C26_escape_counterexample :
    search (.alt (.cat .bot (.group (.char 'a'))) (.cat (.group (.char 'b')) .eot)) "ax".toList = true ∧
    search (.alt (.cat .bot (.group (.char 'a'))) (.cat (.group (.char 'b')) .eot)) "xb".toList = true := by decide +kernel

end SerfProofs.C26
