/-
C23 — Cluster key operations aggregate replies faithfully and replies fit.

Model: `SerfModel.KeyAgg` (serf/keymanager.go `streamKeyResp`, `handleKeyRequest`;
serf/internal_query.go `keyListResponseWithCorrectSize`).

Aggregation: `rs` is the list of replies the response channel delivers (any list:
well-formed, failed, wrong type byte, undecodable, more than `numNodes`).
`used numNodes rs` are the replies the loop consumes: the first `numNodes` (the
loop returns when `NumResp = NumNodes`), all of them if `numNodes = 0`.

Truncation: the encoded size is ANY function `size` of (number of keys shown,
truncation notice); `limit` and the number of keys `actual` are arbitrary.
-/
import SerfProofs.Lemmas.KeyAgg
import SerfModel.Gen.KeyStream
namespace SerfProofs.C23
open SerfModel SerfModel.KeyAgg SerfProofs.KeyAgg

/-- **Aggregation.** Number of replies, failures (= failed + undecodable + wrong
type), per-key holder counts and per-primary-key counts are exactly the folds over
the consumed replies. -/
theorem C23_aggregate (numNodes : Nat) (rs : List NR) :
    (streamKeyResp numNodes rs).numNodes = numNodes ∧
    (streamKeyResp numNodes rs).numResp = (used numNodes rs).length ∧
    (streamKeyResp numNodes rs).numErr = (used numNodes rs).countP failed ∧
    (∀ k, cnt (streamKeyResp numNodes rs).keys k = ((used numNodes rs).map (holds k)).sum) ∧
    (∀ k, cnt (streamKeyResp numNodes rs).primary k = (used numNodes rs).countP (primaryIs k)) := by
  rw [streamKeyResp_eq]
  obtain ⟨h1, h2, h3, h4, h5, -⟩ := fold_facts (used numNodes rs) { numNodes := numNodes }
  exact ⟨h1, by simpa using h2, by simpa using h3, fun k => by simpa [cnt] using h4 k,
    fun k => by simpa [cnt] using h5 k⟩

/-- **Messages.** For every sender, the `Messages` entry is what the LAST consumed reply of that sender that
writes a message wrote (a rejection notice, the message of a failed reply — also an empty one —, the non-empty
message of a successful reply), and there is no entry if none did. -/
theorem C23_messages (numNodes : Nat) (rs : List NR) (s : String) :
    alookup (streamKeyResp numNodes rs).messages s = lastMsg (used numNodes rs) s := by
  obtain ⟨-, -, -, -, -, h⟩ := fold_facts (used numNodes rs) { numNodes := numNodes }
  rw [streamKeyResp_eq, h]
  simp

/-- … in particular every failed consumed reply leaves an entry for its sender. -/
theorem C23_failed_has_message (numNodes : Nat) (rs : List NR) (r : NR)
    (hr : r ∈ used numNodes rs) (hf : failed r = true) :
    (alookup (streamKeyResp numNodes rs).messages r.sender).isSome = true := by
  obtain ⟨m, hm⟩ : ∃ m, msgOf r = some m := by
    unfold failed at hf
    unfold msgOf
    cases hp : r.payload with
    | badType => exact ⟨_, rfl⟩
    | undecodable => exact ⟨_, rfl⟩
    | decoded n => simp [hp] at hf; simp [hf]
  -- the messages written for this sender are not empty, so there is a last one
  rw [C23_messages, lastMsg, List.getLast?_isSome]
  exact List.ne_nil_of_mem (List.mem_filterMap.mpr ⟨r, List.mem_filter.mpr ⟨hr, by simp⟩, hm⟩)

/-- With at least one member, the consumed replies are the first `numNodes`. -/
theorem C23_used (numNodes : Nat) (rs : List NR) (h : 0 < numNodes) : used numNodes rs = rs.take numNodes :=
  if_neg (Nat.ne_of_gt h)

/-- A node holding key `k` once and replying well-formed is counted once: if no reply
lists a key twice, `keys k` is the NUMBER OF REPLIES that list `k`. -/
theorem C23_keys_count_nodes (numNodes : Nat) (rs : List NR) (k : String)
    (hnd : ∀ r ∈ used numNodes rs, holds k r ≤ 1) :
    cnt (streamKeyResp numNodes rs).keys k = (used numNodes rs).countP (fun r => holds k r == 1) := by
  rw [(C23_aggregate numNodes rs).2.2.2.1 k]
  generalize used numNodes rs = l at hnd
  induction l with
  | nil => rfl
  | cons r l ih =>
    have h1 := hnd r (List.mem_cons_self)
    have ih' := ih (fun x hx => hnd x (List.mem_cons_of_mem _ hx))
    simp only [List.map_cons, List.sum_cons, List.countP_cons, ih']
    by_cases h : holds k r = 1
    · simp [h]; omega
    · have : holds k r = 0 := by omega
      simp [this]

/-- **Error exactly when** some consumed reply failed or the number of replies
consumed differs from the number of members. -/
theorem C23_error_iff (numNodes : Nat) (rs : List NR) :
    (keyRequestError (streamKeyResp numNodes rs)).isSome ↔
      (∃ r ∈ used numNodes rs, failed r = true) ∨ (used numNodes rs).length ≠ numNodes := by
  obtain ⟨h1, h2, h3, -, -⟩ := C23_aggregate numNodes rs
  rw [keyRequestError_isSome, h1, h2, h3, ← Nat.pos_iff_ne_zero, List.countP_pos_iff]

/-- … in terms of the replies: with `numNodes > 0` members, an error is returned
exactly when one of the first `numNodes` replies failed or fewer than `numNodes`
replies arrived before the query closed. -/
theorem C23_error_iff_replies (numNodes : Nat) (rs : List NR) (h : 0 < numNodes) :
    (keyRequestError (streamKeyResp numNodes rs)).isSome ↔
      (∃ r ∈ rs.take numNodes, failed r = true) ∨ rs.length < numNodes := by
  rw [C23_error_iff, C23_used numNodes rs h, List.length_take,
    show min numNodes rs.length ≠ numNodes ↔ rs.length < numNodes by omega]

/-- With no member at all (`numNodes = 0`, not reachable: the node itself is a member) the loop never returns
early, every reply is consumed, and any reply is one too many. -/
theorem C23_error_iff_zero_members (rs : List NR) :
    (keyRequestError (streamKeyResp 0 rs)).isSome ↔ (∃ r ∈ rs, failed r = true) ∨ rs ≠ [] := by
  rw [C23_error_iff]
  simp [used, List.length_eq_zero_iff]

/-- The hypothesis of `C23_keys_count_nodes` is needed: a single reply listing a key twice counts it twice
(the code does `resp.Keys[key]++` per listing, not per node). -/
theorem C23_key_listed_twice_counterexample :
    cnt (streamKeyResp 1 [⟨"a", .decoded ⟨true, "", ["k", "k"], "k"⟩⟩]).keys "k" = 2 := by decide

/-- **The receive loop as it is in the source**: a FRESH `var nodeResponse` per reply, `NumResp++` first
and unconditional, the type check and the decode each counting an error on rejection, then the effects,
then the early return when `NumResp == NumNodes`; the type byte is the model's. -/
theorem C23_stream_shape_gen :
    Gen.KeyStream.shape.asModelled = true ∧ Gen.KeyStream.responseType = keyResponseType.toNat := by decide +kernel

/-- **When each effect of a decoded reply happens** (path conditions regenerated from the nested ifs):
`NumErr++` for EVERY reply with `Result = false` — whether or not it carries a message —, a message
entry for failed replies and for successful ones with a non-empty message, the keys and the primary key
always. -/
theorem C23_effect_guards_gen (n : NodeKeyResp) :
    Gen.KeyStream.errGuard n = !n.result ∧
    Gen.KeyStream.msgGuard n = (!n.result || (n.result && decide (n.message.length > 0))) ∧
    Gen.KeyStream.keysGuard n = true ∧ Gen.KeyStream.primaryGuard n = true := by
  -- by cases on the two facts the guards can depend on, so that any equivalent way of writing the ifs
  -- (flipped condition with swapped branches, else-if, merged or split tests) still proves
  obtain ⟨res, msg, ks, p⟩ := n
  cases res <;> by_cases hm : msg.length > 0 <;>
    simp [Gen.KeyStream.errGuard, Gen.KeyStream.msgGuard, Gen.KeyStream.keysGuard, Gen.KeyStream.primaryGuard, hm]

/-- … hence the transcribed loop body is the source's. -/
theorem C23_step_gen (resp : KeyResponse) (r : NR) :
    stepOneG Gen.KeyStream.errGuard Gen.KeyStream.msgGuard Gen.KeyStream.keysGuard Gen.KeyStream.primaryGuard resp r =
      stepOne resp r := by
  unfold stepOneG stepOne
  cases r.payload with
  | badType => rfl
  | undecodable => rfl
  | decoded n =>
    obtain ⟨h1, h2, h3, h4⟩ := C23_effect_guards_gen n
    simp only [h1, h2, h3, h4]
    cases n.result <;> by_cases hm : n.message.length > 0 <;> simp [hm]

/-- The error checks of `handleKeyRequest` as written: first `NumErr != 0`, then `NumResp != NumNodes`
(the order `keyRequestError` transcribes), with `NumNodes` taken from memberlist before the replies are read. -/
theorem C23_error_checks_gen :
    Gen.KeyStream.errorChecks = [("resp.NumErr != 0", "failure"), ("resp.NumResp != resp.NumNodes", "missing")] ∧
    Gen.KeyStream.numNodesSource = "k.serf.memberlist.NumMembers()" := ⟨rfl, rfl⟩

/-- Regression witness: with `NumErr++` only under a non-empty message (guard
`len(Message) > 0 && !Result`), a node that fails WITHOUT a message is not counted and the operation
reports success. -/
theorem C23_silent_failure_counterexample :
    let step := stepOneG (fun n => decide (n.message.length > 0) && !n.result) (fun n => decide (n.message.length > 0))
                  (fun _ => true) (fun _ => true)
    keyRequestError (step { numNodes := 1 } ⟨"a", .decoded ⟨false, "", [], ""⟩⟩) = none ∧
    keyRequestError (stepOne { numNodes := 1 } ⟨"a", .decoded ⟨false, "", [], ""⟩⟩) = some (.failures 1 1) := by
  decide

theorem streamRawLoop_fresh (dec : DecoderInto) (rs : List (String × Bytes)) :
    ∀ (resp : KeyResponse) (var : NodeKeyResp),
      streamRawLoop true dec resp var rs =
        streamLoop resp (rs.map fun sp => ⟨sp.1, (classifyInto dec zeroResp sp.2).1⟩) := by
  induction rs with
  | nil => intro resp var; rfl
  | cons sp rs ih =>
    intro resp var
    simp only [streamRawLoop, List.map_cons, streamLoop, if_true]
    split
    · rfl
    · exact ih _ _

/-- **Each reply is decoded on its own**: with the decode target declared inside the loop (as the source
has it) the loop over raw payloads and a stateful decoder is `streamKeyResp` over the replies classified
from a ZERO value — a reply that omits fields gets zero values, never the previous reply's; all the
aggregation theorems above therefore apply to raw reply streams. -/
theorem C23_fresh_target (dec : DecoderInto) (numNodes : Nat) (rs : List (String × Bytes)) :
    streamKeyRespRaw true dec numNodes rs =
      streamKeyResp numNodes (rs.map fun sp => ⟨sp.1, (classifyInto dec zeroResp sp.2).1⟩) :=
  streamRawLoop_fresh dec rs _ _

/-- A msgpack-like stateful decoder: byte 1 = error; byte 2 = the full reply {Result:true, Keys:[k], PrimaryKey:k};
byte 3 = the minimal reply {Result:true} (other fields keep what the target held). -/
def keepDec : DecoderInto := fun prev b =>
  match b with
  | 1 :: _ => none
  | 2 :: _ => some ⟨true, "", ["k"], "k"⟩
  | 3 :: _ => some { prev with result := true }
  | _ => some prev

example : cnt (streamKeyRespRaw true keepDec 2 [("a", [8, 2]), ("b", [8, 3])]).keys "k" = 1 := by decide

/-- Regression witness (the hoisted `var nodeResponse`): the minimal reply of node b inherits node a's keys and
primary key: key `k` is reported on 2 nodes although only one holds it. -/
theorem C23_reused_target_counterexample :
    cnt (streamKeyRespRaw false keepDec 2 [("a", [8, 2]), ("b", [8, 3])]).keys "k" = 2 ∧
    cnt (streamKeyRespRaw false keepDec 2 [("a", [8, 2]), ("b", [8, 3])]).primary "k" = 2 ∧
    cnt (streamKeyRespRaw true keepDec 2 [("a", [8, 2]), ("b", [8, 3])]).primary "k" = 1 := by
  decide +kernel

/-- **The loop returns the first attempt that fits**, where the attempts are exactly
`tried limit actual`: the untruncated list, then the prefixes of length
`M = min (limit/25) actual` down to 1, each announcing its own length. -/
theorem C23_truncate_first_fit (size : SizeFn) (limit actual : Nat) :
    keyListResponse size limit actual =
      match (tried limit actual).find? (fits size limit) with
      | some p => .ok (size p.1 p.2) p.1 p.2
      | none => .error :=
  klLoop_eq size limit _ actual none

theorem mem_tried {limit actual : Nat} {p : Nat × Notice} :
    p ∈ tried limit actual ↔
      p = (actual, none) ∨ (1 ≤ p.1 ∧ p.1 ≤ maxListKeys limit actual ∧ p.2 = some p.1) := by
  simp only [tried, List.mem_cons, List.mem_map, List.mem_reverse, List.mem_range]
  refine or_congr_right ⟨?_, fun ⟨h1, h2, h3⟩ => ⟨p.1 - 1, by omega, ?_⟩⟩
  · rintro ⟨j, hj, rfl⟩
    exact ⟨by simp, by simp; omega, rfl⟩
  · rw [show p.1 - 1 + 1 = p.1 by omega, ← h3]

/-- **A reply that is sent fits, shows a prefix, and says so when it truncated**;
if nothing is sent, nothing that was tried fits. -/
theorem C23_truncate (size : SizeFn) (limit actual : Nat) :
    match keyListResponse size limit actual with
    | .ok rawLen shown notice =>
        rawLen = size shown notice ∧ rawLen ≤ limit ∧ shown ≤ actual ∧
        (shown < actual → notice = some shown) ∧ (notice = none → shown = actual) ∧
        (shown, notice) ∈ tried limit actual
    | .error => ∀ p ∈ tried limit actual, limit < size p.1 p.2 := by
  rw [C23_truncate_first_fit]
  cases hf : (tried limit actual).find? (fits size limit) with
  | none =>
    intro p hp
    have := List.find?_eq_none.mp hf p hp
    simpa [fits] using this
  | some p =>
    simp only
    have hmem := List.mem_of_find?_eq_some hf
    have hle : size p.1 p.2 ≤ limit := by simpa [fits] using List.find?_some hf
    rcases mem_tried.mp hmem with rfl | ⟨_, h2, h3⟩
    · exact ⟨trivial, hle, Nat.le_refl _, fun h => absurd h (Nat.lt_irrefl _), fun _ => rfl, hmem⟩
    · have : maxListKeys limit actual ≤ actual := Nat.min_le_right _ _
      exact ⟨trivial, hle, by omega, fun _ => h3, fun hn => (by rw [hn] at h3; cases h3), hmem⟩

/-- The keys shown are a prefix of the node's keys. -/
theorem C23_prefix (keys : List String) (shown : Nat) : keys.take shown <+: keys :=
  List.take_prefix shown keys

/-- **When one key fits, a reply is sent** (the response size limit being at least
the 25 bytes the code assumes per key). -/
theorem C23_one_key_fits (size : SizeFn) (limit actual : Nat)
    (hk : 1 ≤ actual) (hl : 25 ≤ limit) (h1 : size 1 (some 1) ≤ limit) :
    ∃ rawLen shown notice, keyListResponse size limit actual = .ok rawLen shown notice := by
  -- one key with its notice is among the attempts, so not every attempt can have failed
  have hmem : ((1 : Nat), (some 1 : Notice)) ∈ tried limit actual := by
    refine mem_tried.mpr (.inr ⟨Nat.le_refl 1, ?_, rfl⟩)
    simp only [maxListKeys, minEncodedKeyLength]
    omega
  have := C23_truncate size limit actual
  cases h : keyListResponse size limit actual with
  | ok rawLen shown notice => exact ⟨_, _, _, rfl⟩
  | error =>
    rw [h] at this
    exact absurd (this _ hmem) (by simpa using h1)

/-- The hypothesis `25 ≤ limit` of `C23_one_key_fits` is needed: with limit 20 the loop tries only the untruncated
list (`20/25 = 0` prefixes), so two 10-byte keys that do not fit together yield no reply although one would fit. -/
theorem C23_small_limit_counterexample :
    keyListResponse (fun n _ => 4 + 10 * n) 20 2 = .error ∧ (fun (n : Nat) (_ : Notice) => 4 + 10 * n) 1 (some 1) ≤ 20 := by
  decide

/-- Same, with the code's own assumption about sizes instead of `25 ≤ limit`: every
key costs at least 25 bytes. -/
theorem C23_one_key_fits_sized (size : SizeFn) (limit actual : Nat)
    (hsz : ∀ n notice, 25 * n ≤ size n notice)
    (hk : 1 ≤ actual) (h1 : size 1 (some 1) ≤ limit) :
    ∃ rawLen shown notice, keyListResponse size limit actual = .ok rawLen shown notice :=
  C23_one_key_fits size limit actual hk (by have := hsz 1 (some 1); omega) h1

-- Non-vacuity.  Aggregation: 3 members; an ok reply, a failed one, an undecodable one, and a 4th that is not consumed.
private def okR (s : String) (keys : List String) (p : String) : NR := ⟨s, .decoded ⟨true, "", keys, p⟩⟩
private def r4 : KeyResponse :=
  streamKeyResp 3 [okR "a" ["k1", "k2"] "k1", ⟨"b", .decoded ⟨false, "boom", [], ""⟩⟩, ⟨"c", .undecodable⟩, okR "d" ["k1"] "k1"]
example : r4.numResp = 3 ∧ r4.numErr = 2 ∧ cnt r4.keys "k1" = 1 ∧ cnt r4.keys "k2" = 1 ∧ cnt r4.primary "k1" = 1 ∧
    cnt r4.primary "" = 1 ∧ keyRequestError r4 = some (.failures 2 3) := by decide
example : alookup r4.messages "b" = some (.text "boom") ∧ alookup r4.messages "c" = some .decodeFailed ∧
    alookup r4.messages "a" = none ∧ alookup r4.messages "d" = none := by decide
example : keyRequestError (streamKeyResp 2 [okR "a" ["k"] "k"]) = some (.missing 1 2) := by decide
example : keyRequestError (streamKeyResp 2 [okR "a" ["k"] "k", okR "b" ["k"] "k"]) = none := by decide
-- Truncation: 40 bytes per key + 30 of envelope (+20 for a notice), limit 200, 10 keys: 200/25 = 8 attempts after the full one.
private def sz : SizeFn := fun n notice => 30 + 40 * n + (if notice.isSome then 20 else 0)
example : keyListResponse sz 200 10 = .ok 170 3 (some 3) := by decide
example : keyListResponse sz 200 4 = .ok 190 4 none := by decide
example : keyListResponse sz 60 4 = .error := by decide
example : (tried 200 10).length = 9 := by decide

end SerfProofs.C23
