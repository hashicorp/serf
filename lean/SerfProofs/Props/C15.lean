/-
C15 — Member bookkeeping stays consistent and reaping is exact.

Model: `SerfModel.Node` (serf/serf.go, serf/delegate.go): one node's membership state machine.
`members` is the Go map `s.members` (an association list), `failed` / `left` are the Go slices
`s.failedMembers` / `s.leftMembers` kept as lists of names, with the literal slice idioms of the
Go code (`removeOldMember`, the swap-delete loop of `reap`).  `step n op` applies one input
(memberlist notification, gossip intent, push/pull merge, Leave / force-leave / Shutdown, one
reaper tick with an explicit `now` and per-member timeout override); `run` folds `step`.

The bookkeeping invariant `BookInv` (`SerfProofs.NodeBook`): member names are unique, the two
lists have no duplicates, and a name is in `failed` (`left`) iff the member record stored under
that name has status failed (left).  It holds for a new node and is kept by every input, hence in
every reachable state.  The counts of `Stats()` and the exactness of a reaper tick follow from it; they
are stated for any state that satisfies it and, at the end, over whole histories.  That a pruned member
disappears does not rest on it.
-/
import SerfProofs.Lemmas.NodeBook
namespace SerfProofs.C15
open SerfModel SerfModel.Node SerfProofs.NodeSteps SerfProofs.NodeBook SerfProofs.NodeLists

theorem C15_inv_init (name : Name) (cfg : Config) : BookInv (Node.init name cfg) :=
  inv_init name cfg

theorem C15_inv_step (n : Node) (op : Op) : BookInv n → BookInv (step n op).1 :=
  inv_step n op

theorem C15_inv_run (n : Node) (ops : List Op) : BookInv n → BookInv (run n ops) :=
  inv_run ops n

/-- A run used by the witnesses below: "b" joins and fails at time 3, "c" joins, announces its
leave and leaves at time 4. -/
def demo : Node :=
  run (Node.init "self" {})
    [.nodeJoin "b", .nodeLeave "b" 3, .nodeJoin "c", .leaveMsg "c" 1 false 0, .nodeLeave "c" 4]

theorem demo_inv : BookInv demo := C15_inv_run _ _ (C15_inv_init _ _)

example : demo.failed = ["b"] ∧ demo.left = ["c"] := by decide

/-- names are unique wherever the invariant holds (`C15_inv_run`: in every reachable state) -/
theorem C15_names_unique (n : Node) (h : BookInv n) : (n.members.map (·.1)).Nodup := h.keys

example : (demo.members.map (·.1)).Nodup := C15_names_unique demo demo_inv
example : demo.members.map (·.1) = ["self", "b", "c"] := by decide

/-- A duplicate-free list holding exactly the names with stored status `s` is as long as the
number of listed members with that status. -/
theorem length_eq_countStatus (n : Node) (h : BookInv n) (s : Status) (l : List Name) (hnd : l.Nodup)
    (hiff : ∀ x, x ∈ l ↔ statusOf n x = some s) : l.length = countStatus n s := by
  have hnd2 : ((n.members.filter (fun p => p.2.status = s)).map (·.1)).Nodup :=
    (List.Sublist.map _ List.filter_sublist).nodup h.keys
  have hp : l.Perm ((n.members.filter (fun p => p.2.status = s)).map (·.1)) := by
    rw [List.perm_ext_iff_of_nodup hnd hnd2]
    intro x
    rw [hiff]
    constructor
    · intro hs
      obtain ⟨m, hm, hs⟩ := statusOf_eq_iff.mp hs
      exact List.mem_map.mpr ⟨(x, m), List.mem_filter.mpr ⟨mem_of_alookup hm, by simpa using hs⟩, rfl⟩
    · intro hx
      obtain ⟨p, hp, rfl⟩ := List.mem_map.mp hx
      obtain ⟨hp1, hp2⟩ := List.mem_filter.mp hp
      have hl : alookup n.members p.1 = some p.2 := alookup_of_mem_nodup h.keys hp1
      rw [statusOf_of_lookup hl]
      simpa using hp2
  rw [hp.length_eq]
  simp [countStatus]

/-- the failed / left counts the node reports equal the numbers of members it lists as failed / left -/
theorem C15_stats (n : Node) (h : BookInv n) :
    statsFailed n = countStatus n .failed ∧ statsLeft n = countStatus n .left :=
  ⟨length_eq_countStatus n h .failed n.failed h.failedNodup h.failedIff,
   length_eq_countStatus n h .left n.left h.leftNodup h.leftIff⟩

example : statsFailed demo = 1 ∧ countStatus demo .failed = 1 ∧ statsLeft demo = 1 ∧ countStatus demo .left = 1 := by
  decide

def leaveTimeOf (n : Node) (x : Name) : Nat := ((alookup n.members x).map (·.leaveTime)).getD 0

/-- x is past its (overridden) timeout at `now` -/
def Due (n : Node) (now : Nat) (ov : Name → Nat → Nat) (x : Name) : Prop :=
  (statusOf n x = some .failed ∧ now - leaveTimeOf n x > ov x n.cfg.reconnect) ∨
  (statusOf n x = some .left ∧ now - leaveTimeOf n x > ov x n.cfg.tombstone)

instance (n : Node) (now : Nat) (ov : Name → Nat → Nat) (x : Name) : Decidable (Due n now ov x) := by
  unfold Due
  exact inferInstance

theorem expired_iff (n : Node) (now : Nat) (ov : Name → Nat → Nat) (t : Nat) (x : Name) :
    expired n.members now ov t x = true ↔ now - leaveTimeOf n x > ov x t := by
  simp [expired, leaveTimeOf]

/-- The members a reaper tick erases are the due ones. -/
theorem due_iff_reaped (n : Node) (now : Nat) (ov : Name → Nat → Nat) (h : BookInv n) (x : Name) :
    Due n now ov x ↔ x ∈ reapedFailed n now ov ++ reapedLeft n now ov := by
  rw [List.mem_append, mem_reapedFailed h, mem_reapedLeft h, expired_iff, expired_iff]
  exact Iff.rfl

theorem reap_event_names (n : Node) (now : Nat) (ov : Name → Nat → Nat) :
    (reap n now ov).2.events.map (·.2) = reapedFailed n now ov ++ reapedLeft n now ov := by
  rw [reap_events_eq, List.map_map]
  simp [Function.comp_def]

theorem C15_reap_exact (n : Node) (now : Nat) (ov : Name → Nat → Nat) (h : BookInv n) :
    -- exactly the due members are removed, everything else is untouched
    (∀ x, alookup (reap n now ov).1.members x = if Due n now ov x then none else alookup n.members x) ∧
    -- exactly one reap event per removed member, and nothing else
    (∀ e ∈ (reap n now ov).2.events, e.1 = EvKind.reap) ∧
    ((reap n now ov).2.events.map (·.2)).Nodup ∧
    (∀ x, x ∈ (reap n now ov).2.events.map (·.2) ↔ Due n now ov x) := by
  refine ⟨?_, ?_, ?_, ?_⟩
  · intro x
    rw [reap_alookup]
    by_cases hd : Due n now ov x
    · rw [if_pos hd, if_pos ((due_iff_reaped n now ov h x).mp hd)]
    · rw [if_neg hd, if_neg (mt (due_iff_reaped n now ov h x).mpr hd)]
  · intro e he
    rw [reap_events_eq] at he
    obtain ⟨x, _, rfl⟩ := List.mem_map.mp he
    rfl
  · rw [reap_event_names]
    exact reaped_nodup h now ov
  · intro x
    rw [reap_event_names]
    exact (due_iff_reaped n now ov h x).symm

-- Witness: at time 14 with the default timeouts (10 / 20) "b" (failed at 3) is due, "c" (left at 4) and "self" are not.
example : Due demo 14 (fun _ t => t) "b" ∧ ¬ Due demo 14 (fun _ t => t) "c" ∧ ¬ Due demo 14 (fun _ t => t) "self" := by
  decide
example : (reap demo 14 (fun _ t => t)).2.events = [(.reap, "b")] ∧
    (reap demo 14 (fun _ t => t)).1.members.map (·.1) = ["self", "c"] := by decide
-- an override that keeps "b" longer
example : (reap demo 14 (fun x t => if x = "b" then 100 else t)).2.events = [] := by decide

/-- An alive or leaving member is never touched by the reaper (it is on neither list), for every reaper
time and override, wherever the invariant holds; over whole histories: `C01_alive_never_reaped`.  (Seeded
change C01-a breaks exactly this: a member that went failed → left → alive stayed on a reaper list and was
erased while alive.) -/
theorem C15_reaper_spares_unlisted (n : Node) (now : Nat) (ov : Name → Nat → Nat) (h : BookInv n) (x : Name)
    (hs : statusOf n x = some .alive ∨ statusOf n x = some .leaving) :
    alookup (reap n now ov).1.members x = alookup n.members x :=
  reap_spares h now ov x (by rcases hs with hs | hs <;> simp [hs]) (by rcases hs with hs | hs <;> simp [hs])

/-- the literal loop of `reap` (scan with swap-delete) equals a filter up to permutation, for any
list and any member map — in particular for `n.failed` / `n.left` with `n.members`; the erased
names are the expired entries -/
theorem C15_reap_loop_is_filter (ms : List (Name × Member)) (old : List Name) (now : Nat)
    (ov : Name → Nat → Nat) (t : Nat) :
    (reapList ms old now ov t).1.Perm (old.filter (fun x => !expired ms now ov t x)) ∧
    (reapList ms old now ov t).2.Perm (old.filter (expired ms now ov t)) :=
  reapLoop_spec _ _

theorem C15_reap_loop_is_filter_failed (n : Node) (now : Nat) (ov : Name → Nat → Nat) (t : Nat) :
    (reapList n.members n.failed now ov t).1.Perm (n.failed.filter (fun x => !expired n.members now ov t x)) :=
  (C15_reap_loop_is_filter _ _ _ _ _).1

theorem C15_reap_loop_is_filter_left (n : Node) (now : Nat) (ov : Name → Nat → Nat) (t : Nat) :
    (reapList n.members n.left now ov t).1.Perm (n.left.filter (fun x => !expired n.members now ov t x)) :=
  (C15_reap_loop_is_filter _ _ _ _ _).1

/-- a newer prune claim about a known member that is not the running local node makes it disappear, with a reap event -/
theorem C15_prune_disappears (n : Node) (x : Name) (lt wall t : Nat) (_h : BookInv n)
    (hk : ltimeOf n x = some t) (hnew : t < lt) (hself : ¬ (x = n.name ∧ n.life = .alive)) :
    statusOf (handleLeaveIntent n x lt true wall).1 x = none ∧
    (EvKind.reap, x) ∈ (handleLeaveIntent n x lt true wall).2.events := by
  obtain ⟨m, hm, rfl⟩ := ltimeOf_eq_iff.mp hk
  rw [hli_newer true wall hm hnew hself]
  exact ⟨statusOf_of_lookup_none alookup_aerase_self, by simp⟩

-- Witness: a prune claim at Lamport time 5 about the failed member "b" (stored time 0).
example : ltimeOf demo "b" = some 0 ∧ (0 : Nat) < 5 ∧ ¬ ("b" = demo.name ∧ demo.life = .alive) := by decide
example : statusOf (handleLeaveIntent demo "b" 5 true 0).1 "b" = none ∧
    (handleLeaveIntent demo "b" 5 true 0).2.events = [(.leave, "b"), (.reap, "b")] := by decide
example : BookInv (handleLeaveIntent demo "b" 5 true 0).1 := inv_handleLeaveIntent _ _ _ _ _ demo_inv

/-- the same as an input of the node: `NotifyMsg` delivering a leave message with the prune flag -/
theorem C15_prune_disappears_gossip (n : Node) (x : Name) (lt wall t : Nat) (h : BookInv n)
    (hk : ltimeOf n x = some t) (hnew : t < lt) (hself : ¬ (x = n.name ∧ n.life = .alive)) :
    statusOf (step n (.leaveMsg x lt true wall)).1 x = none ∧
    (EvKind.reap, x) ∈ (step n (.leaveMsg x lt true wall)).2.events :=
  C15_prune_disappears n x lt wall t h hk hnew hself

example : statusOf (step demo (.leaveMsg "b" 9 true 0)).1 "b" = none := by decide

/-! ### the property over whole histories (no hypothesis left)

The counts and the exactness of the reaper, quantified over EVERY history from a freshly created node (any
name, any configuration, any sequence of the 13 inputs of the model): the invariant is discharged
by `C15_inv_run`, so nothing is assumed about the state. -/

/-- **At every point of every membership history** the failed / left counts the node reports equal the
numbers of members it lists as failed / left, and member names are unique. -/
theorem C15_history_consistent (name : Name) (cfg : Config) (ops : List Op) :
    statsFailed (run (Node.init name cfg) ops) = countStatus (run (Node.init name cfg) ops) .failed ∧
    statsLeft (run (Node.init name cfg) ops) = countStatus (run (Node.init name cfg) ops) .left ∧
    ((run (Node.init name cfg) ops).members.map (·.1)).Nodup :=
  have h := C15_inv_run _ ops (C15_inv_init name cfg)
  ⟨(C15_stats _ h).1, (C15_stats _ h).2, C15_names_unique _ h⟩

/-- … and at every PREFIX of the history ("at every point"). -/
theorem C15_history_consistent_prefix (name : Name) (cfg : Config) (ops : List Op) (k : Nat) :
    statsFailed (run (Node.init name cfg) (ops.take k)) = countStatus (run (Node.init name cfg) (ops.take k)) .failed ∧
    statsLeft (run (Node.init name cfg) (ops.take k)) = countStatus (run (Node.init name cfg) (ops.take k)) .left ∧
    ((run (Node.init name cfg) (ops.take k)).members.map (·.1)).Nodup :=
  C15_history_consistent name cfg (ops.take k)

/-- **Reaping is exact after every history**, for every `now` and every per-member override. -/
theorem C15_history_reap_exact (name : Name) (cfg : Config) (ops : List Op) (now : Nat) (ov : Name → Nat → Nat) :
    let n := run (Node.init name cfg) ops
    (∀ x, alookup (reap n now ov).1.members x = if Due n now ov x then none else alookup n.members x) ∧
    (∀ e ∈ (reap n now ov).2.events, e.1 = EvKind.reap) ∧
    ((reap n now ov).2.events.map (·.2)).Nodup ∧
    (∀ x, x ∈ (reap n now ov).2.events.map (·.2) ↔ Due n now ov x) :=
  C15_reap_exact _ now ov (C15_inv_run _ ops (C15_inv_init name cfg))

end SerfProofs.C15
