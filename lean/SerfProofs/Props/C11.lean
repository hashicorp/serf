/-
C11 — A crash at any point never loses snapshot state that was already written.

Model: `SerfModel.Snapshot` — the snapshotter emits its file-system operations
(`FsOp`, with the bufio behaviour), `FS.crashAt ops k cut` is the directory after a
process crash just before operation `k` (with `cut` bytes of a write already on
disk), `recover` is what NewSnapshotter reads at the next start: it moves `path.compact`
into place when `path` is missing (`Shape.recoverRename`, serf 1e1bbff) and replay cuts an
unterminated last line off the file (`Shape.truncateTorn`, serf 01e715c); `Snap.openOn` emits
the `rename` / `truncate`.

Everything is proved for every history, threshold, flush timing, map-order oracle and crash
point.  `C11_crash_safe` is the whole-history statement: the life is cut into pieces
(`lifePieces`: the first open, the writes of each append, each compaction, the final flush),
each carrying its window of in-memory states, from the last point at which nothing was buffered
to the state being recorded; a crash inside a piece recovers a state of its window: never older
than that point, never newer than what was written, never empty or corrupt.  (The windows are sound,
not tight: see `appendPieces` for a full bufio buffer written through.)  Its
hypotheses: no graceful leave, and `WFEv` (names without newline — the open finding of C10).
The regression witnesses for `Shape.old` (the code without the two start-up repairs) and the same
scenarios on the default shape are by `decide`.
-/
import SerfProofs.Lemmas.SnapshotPieces
namespace SerfProofs.C11
open SerfModel SerfModel.Snapshot SerfProofs.Snapshot

/-- **An unterminated tail (torn write) is ignored by the restart.** -/
theorem C11_torn_tail_ignored (rj : Bool) (x p : Bytes) (hx : endsNL x = true) (hp : '\n' ∉ p) :
    replay rj (x ++ p) = replay rj x := replay_torn_tail rj x p hx hp

example : endsNL (printLine (.clock 3)) = true ∧ '\n' ∉ ['a', 'l', 'i'] := by decide

/-- **A write cut at any byte recovers a prefix of the lines being written.** -/
theorem C11_cut_recovers_line_prefix_partial (rj : Bool) (ls : List Line) (hls : ∀ l ∈ ls, WFLine l)
    (x : Bytes) (c : Nat) (hx : endsNL x = true) :
    ∃ j, j ≤ ls.length ∧
      replay rj (x ++ (ls.flatMap printLine).take c) = (ls.take j).foldl (applyLine rj) (replay rj x) := by
  induction ls generalizing x c with
  | nil => exact ⟨0, Nat.le_refl _, by simp⟩
  | cons l t ih =>
    have hl := hls l List.mem_cons_self
    by_cases hc : c < (printLine l).length
    · refine ⟨0, Nat.zero_le _, ?_⟩
      have : ((l :: t).flatMap printLine).take c = (printLine l).take c := by
        simp only [List.flatMap_cons]
        exact List.take_append_of_le_length (Nat.le_of_lt hc)
      rw [this]
      simp only [List.take_zero, List.foldl_nil]
      exact replay_torn_tail rj x _ hx (printLine_take_noNL l hl c hc)
    · have hge : (printLine l).length ≤ c := Nat.le_of_not_lt hc
      have : ((l :: t).flatMap printLine).take c = printLine l ++ (t.flatMap printLine).take (c - (printLine l).length) := by
        simp only [List.flatMap_cons]
        rw [List.take_append, List.take_of_length_le hge]
      rw [this, ← List.append_assoc]
      have hx' : endsNL (x ++ printLine l) = true := endsNL_append hx (endsNL_printLine l)
      obtain ⟨j, hj, he⟩ := ih (fun m hm => hls m (List.mem_cons_of_mem _ hm)) (x ++ printLine l) (c - (printLine l).length) hx'
      refine ⟨j + 1, by simp; omega, ?_⟩
      rw [he, replay_append_line rj x l hx hl]
      simp

example : ∀ l ∈ [Line.alive ['a'] ['1'], .clock 2], WFLine l := by decide

/-- **Never missing.** For every life (fresh directory, any events incl. leave, any
threshold/map order) and every crash point `k ≥ 1` (after the first open) of its operation
list: the snapshot file exists, or it does not and `path.compact` exists — which the start-up
recovery (`recover`, `Snap.openOn`) moves into place. -/
theorem C11_never_missing (ord : Order) (rj : Bool) (mc : Nat) (evs : List Ev) (clk : Nat) (k : Nat)
    (hk : 1 ≤ k) :
    CrashOK (FS.applyAll {} ((life ord rj mc {} evs clk).2.take k)) := by
  rw [life_fresh_snd]
  have hsafe : Safe ((run ord (Snap.init rj mc).1 evs).2 ++ (shutdown ord (run ord (Snap.init rj mc).1 evs).1 clk).2) :=
    Safe.append (safe_run ord evs _) (safe_shutdown ord _ clk)
  have hinit : (Snap.init rj mc).2 = [.openAppend .main] := rfl
  rw [hinit, List.append_assoc, List.take_append]
  have h1 : ([FsOp.openAppend .main] : List FsOp).take k = [FsOp.openAppend .main] := by
    cases k with
    | zero => omega
    | succ n => simp
  rw [h1, applyAll_append]
  have hfs : ((({} : FS).applyAll [FsOp.openAppend .main]).main).isSome = true := by decide
  exact (hsafe _ hfs).1 _

/-- **Every crash point of a compaction** (the window between remove and rename included):
the restart reads the old snapshot, the old snapshot with the flushed buffer, or the complete
compacted file; with C10's invariant these replay to an earlier and to the current in-memory state. -/
theorem C11_compaction_crash_points (ord : Order) (s : Snap) (fs : FS) (d : Bytes) (hd : fs.main = some d) (k : Nat)
    (rj : Bool) :
    recover rj (fs.applyAll ((compact ord s).2.take k)) = replay rj d ∨
    recover rj (fs.applyAll ((compact ord s).2.take k)) = replay rj (d ++ s.buf) ∨
    recover rj (fs.applyAll ((compact ord s).2.take k)) = replay rj (compactLines ord s).flatten := by
  rw [recover_eq_recoverFile, ← crashAt_zero]
  rcases compact_crashAt ord s fs d hd k 0 with ⟨w, _, hw, h⟩ | ⟨h1, h2⟩ | h
  · rcases hw rfl with rfl | rfl
    · exact .inl (by rw [recoverFile_of_main h, List.append_nil])
    · exact .inr (.inl (by rw [recoverFile_of_main h]))
  · exact .inr (.inr (by rw [recoverFile_of_none h1 h2]))
  · exact .inr (.inr (by rw [recoverFile_of_main h]))

/-- **A torn tail is cut off at the next start**, so the next life appends to a newline-terminated file
(the `endsNL` premise of the C10 invariant holds again). -/
theorem C11_torn_tail_truncated (rj : Bool) (mc : Nat) (x p : Bytes) (hx : endsNL x = true) (hp : '\n' ∉ p) (hne : p ≠ [])
    (fs : FS) (hfs : fs.main = some (x ++ p)) :
    (fs.applyAll (Snap.openOn rj mc fs).2).main = some x ∧ (Snap.openOn rj mc fs).1.offset = x.length := by
  have hv : completeLen (x ++ p) = x.length := by rw [completeLen_append_noNL x p hp, completeLen_endsNL x hx]
  have hlt : x.length < (x ++ p).length := by
    have : p.length > 0 := List.length_pos_iff.mpr hne
    simp; omega
  unfold Snap.openOn
  simp only [hfs, Option.isNone_some, Bool.and_false, Bool.false_and, Bool.false_eq_true, ↓reduceIte, Option.getD_some, hv, hlt,
    decide_true, Bool.and_true, List.nil_append]
  constructor
  · simp [FS.applyAll, FS.apply, FS.get, FS.set, hfs]
  · trivial

/-- **C11, whole histories.** The pieces of a life are exactly the operations the model emits,
and at every crash point `(k, cut)` of every piece the state a restart recovers from the
directory is (up to the order of the rejoin map) a state of that piece's window: the in-memory
states from the last quiescent point (nothing buffered) up to the state being recorded. -/
theorem C11_crash_safe (ord : Order) (hord : PermOrder ord) (rj : Bool) (mc : Nat) (evs : List Ev) (clk : Nat)
    (hwf : ∀ e ∈ evs, WFEv e) (hnl : Ev.leave ∉ evs) :
    opsOf (lifePieces ord rj mc evs clk) = (life ord rj mc {} evs clk).2 ∧
    PiecesSafe rj {} (lifePieces ord rj mc evs clk) :=
  life_pieces_safe ord hord rj mc evs clk hwf hnl

/-- the same, read by position: crash inside piece `i` (after all operations of the earlier
pieces), before its operation `k`, with `cut` bytes of that write on disk -/
theorem C11_crash_safe_at (ord : Order) (hord : PermOrder ord) (rj : Bool) (mc : Nat) (evs : List Ev) (clk : Nat)
    (hwf : ∀ e ∈ evs, WFEv e) (hnl : Ev.leave ∉ evs)
    (i : Nat) (hi : i < (lifePieces ord rj mc evs clk).length) (k cut : Nat) :
    ∃ m ∈ (lifePieces ord rj mc evs clk)[i].win,
      RecEq (recover rj (FS.crashAt (FS.applyAll {} (opsOf ((lifePieces ord rj mc evs clk).take i)))
        (lifePieces ord rj mc evs clk)[i].ops k cut)) m :=
  PiecesSafe_get (life_pieces_safe ord hord rj mc evs clk hwf hnl).2 i hi k cut

/-- the same for a crash point of the flat operation list of the life -/
theorem C11_crash_safe_flat (ord : Order) (hord : PermOrder ord) (rj : Bool) (mc : Nat) (evs : List Ev) (clk : Nat)
    (hwf : ∀ e ∈ evs, WFEv e) (hnl : Ev.leave ∉ evs) (k cut : Nat) :
    ∃ p ∈ lifePieces ord rj mc evs clk, ∃ m ∈ p.win,
      RecEq (recover rj (FS.crashAt {} (life ord rj mc {} evs clk).2 k cut)) m := by
  obtain ⟨hops, hsafe⟩ := life_pieces_safe ord hord rj mc evs clk hwf hnl
  have := PiecesSafe_flat hsafe (by simp [lifePieces]) k cut
  rw [hops] at this
  exact this

/-- non-vacuity: a history with a compaction and a crash point inside it (9: `path.compact` is complete, the old
buffer not yet flushed; the remove..rename window is crash point 12 of this list, and 9 of `cexOps`, which leaves
out the bufio calls) -/
example : ∃ p ∈ lifePieces Order.id false 0 [.join [(['a'], ['1', ':', '2'])] 2, .forceCompact] 2, ∃ m ∈ p.win,
    RecEq (recover false (FS.crashAt {} (life Order.id false 0 {} [.join [(['a'], ['1', ':', '2'])] 2, .forceCompact] 2).2 9 0)) m :=
  C11_crash_safe_flat Order.id (fun _ m => List.Perm.refl m) false 0 _ 2
    (by decide) (by decide) 9 0

/-! ### `Shape.old`: witnesses for the code without the two start-up repairs, and the same scenarios with them -/

/-- join of `a`, then a compaction; operations as they reach the OS -/
def cexOps : List FsOp := osOps (life Order.id false 0 {} [.join [(['a'], ['1', ':', '2'])] 2, .forceCompact] 2).2

/-- **Without the start-up rename** (`Shape.old`, serf before 1e1bbff): a crash just before
operation 9 (the rename) recovers nothing although the member was written and synced. -/
theorem C11_window_counterexample_oldshape :
    (FS.crashAt {} cexOps 9 0).main = none ∧ (FS.crashAt {} cexOps 9 0).tmp.isSome = true ∧
    (recover false (FS.crashAt {} cexOps 9 0) Shape.old).alive = [] ∧
    (recover false (FS.crashAt {} cexOps 8 0) Shape.old).alive = [(['a'], ['1', ':', '2'])] := by decide +kernel

/-- **With it** (the default `Shape`): the same crash recovers the member, as does every other crash point after the
join was written. -/
theorem C11_window_recovers :
    ∀ k ∈ [2, 3, 4, 5, 6, 7, 8, 9, 10, 11, 12, 13], (recover false (FS.crashAt {} cexOps k 0)).alive = [(['a'], ['1', ':', '2'])] := by decide +kernel

/-- the directory after a crash that cut the line of member `t` in the middle -/
def tornFS : FS := { main := some (printLine (.alive ['a'] ['1', ':', '2']) ++ (printLine (.alive ['t'] ['3', ':', '4'])).take 9) }

/-- one more life on it: join of `z`, shutdown (`sh` = which start-up repairs the code has) -/
def tornLife (sh : Shape) : Snap × List FsOp := life Order.id false 131072 tornFS [.join [(['z'], ['5', ':', '6'])] 1] 1 sh

/-- **Without the start-up truncation** (`Shape.old`, serf before 01e715c): `z` is appended to the torn fragment and
is not recovered by the next restart. -/
theorem C11_torn_tail_append_counterexample_oldshape :
    (tornLife Shape.old).1.alive = [(['a'], ['1', ':', '2']), (['z'], ['5', ':', '6'])] ∧
    alookup (recover false (tornFS.applyAll (tornLife Shape.old).2) Shape.old).alive ['z'] = none := by decide +kernel

/-- **With it**: the fragment is truncated at start-up and `z` is recovered. -/
theorem C11_torn_tail_append_fixed :
    (recover false (tornFS.applyAll (tornLife {}).2)).alive = [(['a'], ['1', ':', '2']), (['z'], ['5', ':', '6'])] := by decide +kernel

/-- **Only the compacted file survived** (a crash between the remove and the rename of a compaction): the restart
recovers from `<snapshot>.compact` exactly what it would recover if the same bytes were the snapshot itself — both
as the state `recover` reads and as the in-memory state `NewSnapshotter` starts with. (The harness op `createonly`
checks the same equality on real nodes started through `serf.Create`.) -/
theorem C11_compact_only_recovers (rj : Bool) (mc : Nat) (b : Bytes) :
    recover rj { main := none, tmp := some b } = recover rj { main := some b, tmp := none } ∧
    (Snap.openOn rj mc { main := none, tmp := some b }).1.mem = (Snap.openOn rj mc { main := some b, tmp := none }).1.mem := by
  constructor <;> simp [recover, Snap.openOn, Snap.mem]

end SerfProofs.C11
