/-
C08 — Queries reach exactly the nodes their filters select.

Model: `SerfModel.QueryHandle` (`handleQuery`, `shouldProcessQuery`,
`serfQueries.stream`) on top of the de-dup buffer of `SerfModel.EventBuf`
(items = query ids).  Regular-expression matching is an oracle parameter `re`
(`none` = does not compile); every theorem holds for every oracle.

FULL STATEMENT of the at-most-once clause (not provable — same wrap of the query
clock at 2^64−1 as C05, see `C08_once_counterexample`):

    theorem C08_once (qs : List QueryMsg) :
        (runQ re cfg (Buf.start N c m) qs).2.1.Nodup

Hypotheses that stay, and why:
* `NoWrap` (at-most-once and the "only if" of the history-level iff theorems):
  necessary — `C08_once_counterexample`, replayed on a real node on every run.
* `0 < N < 2^64`: `QueryBuffer = 0` makes the real code divide by zero; `len` is an `int`.
* the regex engine and the msgpack decoder are parameters (`re`, the `Filter` type);
  every theorem is for every oracle, the differential uses Go's own engine and decoder.
Everything else (deliver / ack / re-broadcast iff, routing for every name, a fresh
query is first-in-window) carries no hypothesis.
-/
import SerfProofs.Lemmas.EventBuf
import SerfProofs.Lemmas.Assoc
import SerfProofs.Props.C05
import SerfModel.Model.QueryHandle
import SerfModel.Gen.BufLocks
import SerfModel.Gen.BufHandler
import SerfModel.Gen.InternalQueries
import SerfModel.Gen.FilterLoop
import SerfProofs.Lemmas.BufHandlerIR
namespace SerfProofs.C08
open SerfModel SerfModel.Atomic SerfModel.EventBuf SerfModel.QueryHandle SerfProofs.EventBuf

variable (re : Oracle) (cfg : NodeCfg)

theorem shouldProcess_eq_all (fs : List Filter) : shouldProcess re cfg fs = fs.all (passes re cfg) := by
  induction fs with
  | nil => rfl
  | cons f rest ih =>
    cases f with
    | empty => simp [shouldProcess, passes]
    | node names =>
      by_cases h : names.contains cfg.name = true
      · simp only [shouldProcess, h, ↓reduceIte, ih, List.all_cons, passes, Bool.true_and]
      · simp only [shouldProcess, h, List.all_cons, passes]; simp
    | tag t e =>
      simp only [shouldProcess, List.all_cons, passes]
      cases hre : re e (tagValue cfg t) with
      | none => simp
      | some m => cases m <;> simp [ih]
    | undecodable => simp [shouldProcess, passes]
    | unknownType => simp [shouldProcess, passes]

/-- The front half of `handleQuery` records the query: by definition the buffer's own verdict.
`firstInWindow_iff` (one step) and `firstInWindow_history` (after a history: not below the cut-off,
inside the window, not recorded before) say when that is. -/
def firstInWindow (b : Buf Nat) (q : QueryMsg) : Prop := (handle b q.lt q.id).2 = .delivered

theorem firstInWindow_iff (b : Buf Nat) (q : QueryMsg) :
    firstInWindow b q ↔
      (¬ q.lt < b.minTime ∧ tooOld b.slots.length (witness b.clock q.lt) q.lt = false
        ∧ q.id ∉ seenAt b.slots (slotIdx b.slots.length q.lt) q.lt) :=
  SerfProofs.C05.C05_delivered_iff b q.lt q.id

theorem handleQuery_eq (b : Buf Nat) (q : QueryMsg) :
    handleQuery re cfg b q = ((handle b q.lt q.id).1,
      { res := (handle b q.lt q.id).2
        delivered := decide ((handle b q.lt q.id).2 = .delivered) && shouldProcess re cfg q.filters
        acked := decide ((handle b q.lt q.id).2 = .delivered) && shouldProcess re cfg q.filters && q.ack
        rebroadcast := decide ((handle b q.lt q.id).2 = .delivered) && !q.noBroadcast }) := by
  unfold handleQuery
  by_cases h : (handle b q.lt q.id).2 = .delivered
  · by_cases h2 : shouldProcess re cfg q.filters = true <;> simp [h, h2]
  · simp [h]

/-- **Deliver ⇔ first seen in the window ∧ selected** — no hypothesis. -/
theorem C08_delivered_iff (b : Buf Nat) (q : QueryMsg) :
    (handleQuery re cfg b q).2.delivered = true ↔
      (firstInWindow b q ∧ ∀ f ∈ q.filters, passes re cfg f = true) := by
  simp [handleQuery_eq, firstInWindow, shouldProcess_eq_all]

/-- **Deliver ⇔ selected.**  A query seen for the first time inside the window is
handed to the event channel exactly when every filter passes: the node's name is
in every node list and every tag pattern compiles and matches the tag's value
(missing tag = empty string); an empty, undecodable or unknown-type filter
excludes the node. -/
theorem C08_deliver_iff (b : Buf Nat) (q : QueryMsg) (hfirst : firstInWindow b q) :
    (handleQuery re cfg b q).2.delivered = true ↔ ∀ f ∈ q.filters, passes re cfg f = true :=
  (C08_delivered_iff re cfg b q).trans (and_iff_right hfirst)

/-- **Ack ⇔ delivered ∧ asked to.** -/
theorem C08_ack_iff (b : Buf Nat) (q : QueryMsg) :
    (handleQuery re cfg b q).2.acked = true ↔ ((handleQuery re cfg b q).2.delivered = true ∧ q.ack = true) := by
  simp [handleQuery_eq]

/-- A query that is a duplicate, too old or below the cut-off is never delivered,
acknowledged or re-broadcast. -/
theorem C08_not_first_nothing (b : Buf Nat) (q : QueryMsg) (h : ¬ firstInWindow b q) :
    (handleQuery re cfg b q).2.delivered = false ∧ (handleQuery re cfg b q).2.acked = false
      ∧ (handleQuery re cfg b q).2.rebroadcast = false := by
  unfold firstInWindow at h
  simp [handleQuery_eq, h]

/-- **Re-broadcast ⇔ first seen in the window ∧ re-broadcast not disabled** —
whatever the filters, the tags and the regex engine say. -/
theorem C08_rebroadcast_iff (b : Buf Nat) (q : QueryMsg) :
    (handleQuery re cfg b q).2.rebroadcast = true ↔ (firstInWindow b q ∧ q.noBroadcast = false) := by
  simp [handleQuery_eq, firstInWindow]

-- non-vacuity: a fresh query with a node filter naming the node and a matching tag
-- filter is delivered, acknowledged and re-broadcast; one with a pattern that does not
-- compile and the no-broadcast flag is recorded but goes nowhere.
def exRe : Oracle := fun e v => if e = "^w" ∧ v = "web" then some true else none
def exCfg : NodeCfg := { name := "n1", tags := [("role", "web")] }
def exQ1 : QueryMsg := { lt := 5#64, id := 9, flags := 1, name := "x", filters := [.node ["n0", "n1"], .tag "role" "^w"] }
def exQ2 : QueryMsg := { lt := 5#64, id := 9, flags := 3, name := "x", filters := [.tag "role" "("] }
example : firstInWindow (Buf.init 4) exQ1 := by unfold firstInWindow; decide +kernel
example : (handleQuery exRe exCfg (Buf.init 4) exQ1).2 =
    { res := .delivered, delivered := true, acked := true, rebroadcast := true } := by decide +kernel
example : (handleQuery exRe exCfg (Buf.init 4) exQ2).2 =
    { res := .delivered, delivered := false, acked := false, rebroadcast := false } := by decide +kernel

/-- The query history as inputs of the de-dup buffer. -/
def asIns (qs : List QueryMsg) : List (In Nat) := qs.map fun q => .gossip q.lt q.id

theorem runQ_buf_sublist (qs : List QueryMsg) : ∀ (b : Buf Nat),
    (runQ re cfg b qs).1 = (SerfModel.EventBuf.run b (asIns qs)).1
    ∧ (runQ re cfg b qs).2.1.Sublist (deliveries b (asIns qs))
    ∧ (runQ re cfg b qs).2.2.Sublist (deliveries b (asIns qs)) := by
  induction qs with
  | nil => intro b; exact ⟨rfl, .slnil, .slnil⟩
  | cons q rest ih =>
    intro b
    obtain ⟨i1, i2, i3⟩ := ih (handle b q.lt q.id).1
    -- both lists take the query only if the front half recorded it
    have key : ∀ (c : Bool) {l D : List (W × Nat)}, l.Sublist D →
        (if (decide ((handle b q.lt q.id).2 = .delivered) && c) = true then (q.lt, q.id) :: l else l).Sublist
          ((if (handle b q.lt q.id).2 = .delivered then [(q.lt, q.id)] else []) ++ D) := by
      intro c l D h
      by_cases hf : (handle b q.lt q.id).2 = .delivered
      · cases c
        · simpa [hf] using h.cons (q.lt, q.id)
        · simpa [hf] using h.cons_cons (q.lt, q.id)
      · simpa [hf] using h
    simp only [runQ, asIns, List.map_cons, SerfModel.EventBuf.run, deliveries, stepIn_gossip, handleQuery_eq]
    exact ⟨i1, key _ i2, key _ i3⟩

/-- **At most once.**  For every buffer size, start state, node, oracle and every
history of query messages without the time 2^64−1, no query (time, id) is delivered
twice and none is re-broadcast twice. -/
theorem C08_once_partial (N : Nat) (hN : 0 < N) (hN2 : N < 2 ^ 64) (c m : W) (qs : List QueryMsg)
    (hnw : NoWrap (asIns qs)) :
    (runQ re cfg (Buf.start N c m) qs).2.1.Nodup ∧ (runQ re cfg (Buf.start N c m) qs).2.2.Nodup := by
  have hnd := SerfProofs.C05.C05_at_most_once_partial N hN hN2 c m (asIns qs) hnw
  obtain ⟨_, s1, s2⟩ := runQ_buf_sublist re cfg qs (Buf.start N c m)
  exact ⟨s1.nodup hnd, s2.nodup hnd⟩

-- non-vacuity of `NoWrap (asIns qs)`
example : NoWrap (asIns [{ lt := 5#64, id := 9, flags := 1, name := "x", filters := [] },
                         { lt := 5#64, id := 9, flags := 1, name := "x", filters := [] }]) := .of_all (by decide +kernel)

/-- **Negation witness** (query buffer of 2, three messages, no filters): the same
wrap as C05 — query (1, id 7) is delivered, (2^64−1, id 8) wraps the query clock to 0
and evicts it, the duplicate of (1, id 7) is delivered again. -/
theorem C08_once_counterexample :
    ¬ (runQ (fun _ _ => none) { name := "n", tags := [] } (Buf.init 2)
        [{ lt := 1#64, id := 7, flags := 0, name := "q", filters := [] },
         { lt := BitVec.allOnes 64, id := 8, flags := 0, name := "q", filters := [] },
         { lt := 1#64, id := 7, flags := 0, name := "q", filters := [] }]).2.1.Nodup := by decide +kernel

/-- **Internal queries never reach the application**: nothing `serfQueries.stream`
forwards is a query whose name has the internal prefix, and everything else is
forwarded unchanged and in order. -/
theorem C08_internal_hidden (evs : List AppEv) :
    (∀ e ∈ forwardedToApp evs, e.isInternalQuery = false)
    ∧ (∀ e ∈ evs, e.isInternalQuery = false → e ∈ forwardedToApp evs)
    ∧ (forwardedToApp evs).Sublist evs := by
  refine ⟨?_, ?_, List.filter_sublist⟩
  · intro e he; simpa [forwardedToApp] using (List.mem_filter.1 he).2
  · intro e he hi; exact List.mem_filter.2 ⟨he, by simp [hi]⟩

/-- Source-tied obligation: the fact of `C05_handler_holds_lock` for `handleQuery` and `queryLock`; here too
the `Witness` on the query clock precedes the lock, and the model takes both as one step. -/
theorem C08_handler_holds_lock : SerfModel.Gen.BufLocks.handleQuery.wholeBodyExclusive = true := by decide +kernel

theorem firstInWindow_history (N : Nat) (hN : 0 < N) (hN2 : N < 2 ^ 64) (c m : W)
    (qs : List QueryMsg) (hnw : NoWrap (asIns qs)) (q : QueryMsg) :
    firstInWindow (runQ re cfg (Buf.start N c m) qs).1 q ↔
      (¬ q.lt < (runQ re cfg (Buf.start N c m) qs).1.minTime
       ∧ ¬ q.lt.toNat + N < (witness (runQ re cfg (Buf.start N c m) qs).1.clock q.lt).toNat
       ∧ (q.lt, q.id) ∉ deliveries (Buf.start N c m) (asIns qs)) := by
  unfold firstInWindow
  rw [(runQ_buf_sublist re cfg qs _).1]
  exact SerfProofs.C05.C05_delivered_iff_history_partial N hN hN2 c m (asIns qs) hnw q.lt q.id

/-- **After any history of queries (no time 2^64−1): delivered ⇔ the query is not
below the cut-off, inside the window, its (time, id) was not recorded before, and
every filter selects the node.**  "Recorded before" is `deliveries … (asIns qs)`:
the (time, id) pairs the node accepted as first-seen, whatever their filters said. -/
theorem C08_delivered_iff_history_partial (N : Nat) (hN : 0 < N) (hN2 : N < 2 ^ 64) (c m : W)
    (qs : List QueryMsg) (hnw : NoWrap (asIns qs)) (q : QueryMsg) :
    (handleQuery re cfg (runQ re cfg (Buf.start N c m) qs).1 q).2.delivered = true ↔
      (¬ q.lt < (runQ re cfg (Buf.start N c m) qs).1.minTime
       ∧ ¬ q.lt.toNat + N < (witness (runQ re cfg (Buf.start N c m) qs).1.clock q.lt).toNat
       ∧ (q.lt, q.id) ∉ deliveries (Buf.start N c m) (asIns qs)
       ∧ ∀ f ∈ q.filters, passes re cfg f = true) := by
  rw [C08_delivered_iff, firstInWindow_history re cfg N hN hN2 c m qs hnw q, and_assoc, and_assoc]

/-- **After any history: re-broadcast ⇔ not below the cut-off ∧ inside the window ∧
not recorded before ∧ re-broadcast not disabled** — the filters do not occur. -/
theorem C08_rebroadcast_iff_history_partial (N : Nat) (hN : 0 < N) (hN2 : N < 2 ^ 64) (c m : W)
    (qs : List QueryMsg) (hnw : NoWrap (asIns qs)) (q : QueryMsg) :
    (handleQuery re cfg (runQ re cfg (Buf.start N c m) qs).1 q).2.rebroadcast = true ↔
      (¬ q.lt < (runQ re cfg (Buf.start N c m) qs).1.minTime
       ∧ ¬ q.lt.toNat + N < (witness (runQ re cfg (Buf.start N c m) qs).1.clock q.lt).toNat
       ∧ (q.lt, q.id) ∉ deliveries (Buf.start N c m) (asIns qs)
       ∧ q.noBroadcast = false) := by
  rw [C08_rebroadcast_iff, firstInWindow_history re cfg N hN hN2 c m qs hnw q, and_assoc, and_assoc]

/-- A first-time query inside the window is recorded, whatever the history (all
64-bit times): if its (time, id) was not recorded before it is first-in-window —
so it is delivered iff selected and re-broadcast iff not disabled. -/
theorem C08_fresh_first (N : Nat) (hN2 : N < 2 ^ 64) (c m : W) (qs : List QueryMsg) (q : QueryMsg)
    (hfirst : (q.lt, q.id) ∉ deliveries (Buf.start N c m) (asIns qs))
    (hmin : ¬ q.lt < (runQ re cfg (Buf.start N c m) qs).1.minTime)
    (hwin : ¬ q.lt.toNat + N < (witness (runQ re cfg (Buf.start N c m) qs).1.clock q.lt).toNat) :
    firstInWindow (runQ re cfg (Buf.start N c m) qs).1 q := by
  unfold firstInWindow
  rw [(runQ_buf_sublist re cfg qs _).1] at hmin hwin ⊢
  exact SerfProofs.C05.C05_fresh_delivered N hN2 c m (asIns qs) q.lt q.id hfirst hmin hwin

-- non-vacuity: after the query (5, id 9) a second, different query at the same time is
-- first-in-window; the repeat is not.
example : firstInWindow (runQ exRe exCfg (Buf.start 4 1#64 0#64) [exQ1]).1 { exQ1 with id := 10 } := by
  unfold firstInWindow; decide +kernel
example : ¬ firstInWindow (runQ exRe exCfg (Buf.start 4 1#64 0#64) [exQ1]).1 exQ1 := by
  unfold firstInWindow; decide +kernel

/-- **Source tie (regenerated on every run): the body of `handleQuery`.** The
translation of the function body in serf/serf.go: the same front half as
`handleUserEvent` with `slices.Contains(seen.QueryIDs, query.ID)` as duplicate
test, then `rebroadcast := !query.NoBroadcast()`, the filter test returning
`rebroadcast`, the ack under `query.Ack()`, the delivery, `return rebroadcast` —
in this order. -/
theorem C08_gen_handler_body :
    SerfModel.Gen.BufHandler.handleQuery = SerfProofs.BufHandlerIR.queryBody := rfl

/-- **The translated body IS the model**: interpreting the regenerated body of
`handleQuery` (with the filter verdict and the two flags of the message as
context) yields exactly `QueryHandle.handleQuery` — buffer, return value
(re-broadcast), delivery and ack.  Moving the ack in front of the filter test,
returning `false` for unselected queries, dropping the `!` of the no-broadcast
flag or editing a guard changes the generated body and breaks this obligation. -/
theorem C08_handler_body_is_model (b : Buf Nat) (q : QueryMsg) :
    let ctx : SerfModel.BufHandlerIR.Ctx :=
      { selected := shouldProcess re cfg q.filters, ackFlag := q.ack, noBroadcast := q.noBroadcast }
    let r := SerfModel.BufHandlerIR.run SerfModel.Gen.BufHandler.handleQuery ctx b q.lt q.id
    let m := handleQuery re cfg b q
    r.1.buf = m.1 ∧ r.2 = m.2.rebroadcast ∧ r.1.delivered = m.2.delivered ∧ r.1.acked = m.2.acked := by
  rw [C08_gen_handler_body]
  exact SerfProofs.BufHandlerIR.queryBody_is_handleQuery re cfg b q

/-! Internal-query routing, over every name, on the regenerated shape of `serfQueries.stream` and of
the switch of `serfQueries.handleQuery`. -/
section routing
open SerfModel.Gen

/-- **Source tie (regenerated on every run).** The `inCh` arm of `stream` tests
`e.(*Query)` and `strings.HasPrefix(q.Name, InternalQueryPrefix)`, its internal branch
is exactly `go s.handleQuery(q)` (nothing is sent on `outCh`), its other branch forwards;
`handleQuery` switches on the name without the prefix and its default branch only logs;
the prefix constant is the model's `internalPrefix`. -/
theorem C08_gen_routing_shape :
    shapesUnderstood InternalQueries.stream InternalQueries.switch = true
    ∧ InternalQueries.stream.prefixConst = internalPrefix := ⟨rfl, rfl⟩

/-- The model's routing table: the six internal queries and the handler each one
reaches (`""` = the empty `ping` arm). -/
def routingTable : List (String × String) :=
  [("ping", ""), ("conflict", "handleConflict"), ("install-key", "handleInstallKey"),
   ("use-key", "handleUseKey"), ("remove-key", "handleRemoveKey"), ("list-keys", "handleListKeys")]

/-- **The regenerated dispatch table is the model's, as a TABLE**: the extractor reads
the (constant → handler) pairs out of a `switch`, a tagless `switch` or an
if / else-if chain, with cases in any order and case lists merged or split, and
emits them sorted with every key once; here: same keys, and every name looks up
the same handler in both. -/
theorem C08_gen_routing_cases :
    (∀ p ∈ InternalQueries.switch.cases, p ∈ routingTable)
    ∧ (∀ p ∈ routingTable, p ∈ InternalQueries.switch.cases)
    ∧ (InternalQueries.switch.cases.map (·.1)).Nodup := by decide +kernel

/-- Looking a name up in the regenerated table is looking it up in the model's table. -/
theorem C08_gen_routing_lookup (name : String) :
    alookup InternalQueries.switch.cases name = alookup routingTable name := by
  have h : ∀ n ∈ (InternalQueries.switch.cases ++ routingTable).map (·.1),
      alookup InternalQueries.switch.cases n = alookup routingTable n := by decide +kernel
  by_cases hm : name ∈ (InternalQueries.switch.cases ++ routingTable).map (·.1)
  · exact h name hm
  · -- a name in neither table is found in neither
    rw [List.map_append, List.mem_append, not_or] at hm
    rw [(alookup_eq_none_iff _ _).2 hm.1, (alookup_eq_none_iff _ _).2 hm.2]

theorem route_eq (isQuery : Bool) (name : String) :
    route InternalQueries.stream InternalQueries.switch isQuery name =
      if (isQuery && hasPrefix internalPrefix name) = true then
        match alookup InternalQueries.switch.cases (String.ofList (name.toList.drop internalPrefix.length)) with
        | some h => .handler h
        | none => .dropped
      else .app := by
  unfold route
  rw [C08_gen_routing_shape.1, C08_gen_routing_shape.2]
  generalize alookup InternalQueries.switch.cases _ = o
  cases o <;> rfl

/-- **Every name: forwarded to the application ⇔ not (a query whose name has the
internal prefix).**  In particular an UNKNOWN name with the prefix is never
forwarded, and no name without the prefix is ever swallowed. -/
theorem C08_route_app_iff (isQuery : Bool) (name : String) :
    route InternalQueries.stream InternalQueries.switch isQuery name = .app
      ↔ ¬ (isQuery = true ∧ hasPrefix internalPrefix name = true) := by
  rw [route_eq, ← Bool.and_eq_true]
  split
  · next h =>
    refine ⟨fun hr => ?_, (absurd h ·)⟩
    split at hr <;> cases hr
  · next h => exact ⟨fun _ => h, fun _ => rfl⟩

/-- **A query with the internal prefix is consumed**: it reaches one of the six
handlers when the rest of its name is one of the six constants, and is dropped
(logged as unhandled) otherwise — for every name. -/
theorem C08_internal_consumed (name : String) (h : hasPrefix internalPrefix name = true) :
    (∃ hd, route InternalQueries.stream InternalQueries.switch true name = .handler hd
        ∧ (String.ofList (name.toList.drop internalPrefix.length), hd) ∈ InternalQueries.switch.cases)
    ∨ (route InternalQueries.stream InternalQueries.switch true name = .dropped
        ∧ ∀ p ∈ InternalQueries.switch.cases, p.1 ≠ String.ofList (name.toList.drop internalPrefix.length)) := by
  rw [route_eq, Bool.true_and, if_pos h]
  cases hl : alookup InternalQueries.switch.cases (String.ofList (name.toList.drop internalPrefix.length)) with
  | some hd => exact .inl ⟨hd, rfl, mem_of_alookup hl⟩
  | none => exact .inr ⟨rfl, fun p hp heq => (alookup_eq_none_iff _ _).1 hl (List.mem_map.2 ⟨p, hp, heq⟩)⟩

-- non-vacuity / examples: a known internal query, an unknown one, the bare prefix, near misses
example : route InternalQueries.stream InternalQueries.switch true "_serf_conflict" = .handler "handleConflict" := by decide +kernel
example : route InternalQueries.stream InternalQueries.switch true "_serf_ping" = .handler "" := by decide +kernel
example : route InternalQueries.stream InternalQueries.switch true "_serf_zz" = .dropped := by decide +kernel
example : route InternalQueries.stream InternalQueries.switch true "_serf_" = .dropped := by decide +kernel
example : route InternalQueries.stream InternalQueries.switch true "_serf" = .app := by decide +kernel
example : route InternalQueries.stream InternalQueries.switch true "x_serf_ping" = .app := by decide +kernel
example : route InternalQueries.stream InternalQueries.switch false "_serf_ping" = .app := by decide +kernel

/-- What the application sees of the node's event channel is exactly what the
regenerated routing forwards (`forwardedToApp` is `route … = .app`, event by event). -/
theorem C08_forwarded_is_route (evs : List AppEv) :
    forwardedToApp evs = evs.filter (fun e => match e with
      | .query _ name => route InternalQueries.stream InternalQueries.switch true name == .app
      | .other _ => route InternalQueries.stream InternalQueries.switch false "" == .app) := by
  have key : ∀ isQuery name, (route InternalQueries.stream InternalQueries.switch isQuery name == .app)
      = !(isQuery && hasPrefix internalPrefix name) := by
    intro isQuery name
    rw [Bool.eq_iff_iff, beq_iff_eq, C08_route_app_iff]
    cases isQuery <;> simp
  unfold forwardedToApp
  refine List.filter_congr fun e _ => ?_
  cases e <;> simp [AppEv.isInternalQuery, key]

/-- The query reaches the APPLICATION: `handleQuery` sends it on the node's event
channel and `serfQueries.stream` (regenerated shape) forwards it. -/
def appReceives (b : Buf Nat) (q : QueryMsg) : Bool :=
  (handleQuery re cfg b q).2.delivered
    && (route InternalQueries.stream InternalQueries.switch true q.name == .app)

/-- **The application receives a query ⇔ it is first seen in the window, every filter
selects the node, and its name does not carry the internal prefix** — for every
name, known internal query or not. -/
theorem C08_app_receives_iff (b : Buf Nat) (q : QueryMsg) :
    appReceives re cfg b q = true ↔
      (firstInWindow b q ∧ (∀ f ∈ q.filters, passes re cfg f = true) ∧ hasPrefix internalPrefix q.name = false) := by
  unfold appReceives
  rw [Bool.and_eq_true, C08_delivered_iff, beq_iff_eq, C08_route_app_iff]
  simp [and_assoc]

example : appReceives exRe exCfg (Buf.init 4) exQ1 = true := by decide +kernel
example : appReceives exRe exCfg (Buf.init 4) { exQ1 with name := "_serf_anything" } = false := by decide +kernel

end routing

/-- **Source tie (regenerated on every run): `shouldProcessQuery`.**  The canonical
listing of the function (log lines stripped): an empty entry returns false; the
switch is on the first byte; a node filter decodes `filter[1:]` and requires
`slices.Contains(nodes, s.config.NodeName)`; a tag filter decodes `filter[1:]`, reads
`tags[filt.Tag]` with the ONE-value map form (missing tag = empty string), returns
false when the pattern does not compile or does not match; any other type returns
false; after the loop `return true`.  This is the loop `QueryHandle.shouldProcess`
models (`shouldProcess_eq_all`: = every filter `passes`). -/
theorem C08_gen_filter_loop :
    -- names are canonical (the extractor renames receiver → recv, locals → l0, l1, … in order
    -- of declaration): l0 = the filter entry, l1 = the node list, l3 = found, l4 = the tag
    -- filter, l6 = the node's tags, l7 = matched, l2/l5/l8 = errors
    SerfModel.Gen.FilterLoop.loopVar = "l0"
    ∧ SerfModel.Gen.FilterLoop.beforeSwitch = ["if len(l0) == 0 { return false }"]
    ∧ SerfModel.Gen.FilterLoop.switchTag = "filterType(l0[0])"
    ∧ SerfModel.Gen.FilterLoop.cases =
      [("filterNodeType", ["var l1 filterNode",
          "if l2 := decodeMessage(l0[1:], &l1); l2 != nil { return false }",
          "l3 := slices.Contains(l1, recv.config.NodeName)",
          "if !l3 { return false }"]),
       ("filterTagType", ["var l4 filterTag",
          "if l5 := decodeMessage(l0[1:], &l4); l5 != nil { return false }",
          "l6 := recv.config.Tags",
          "l7, l8 := regexp.MatchString(l4.Expr, l6[l4.Tag])",
          "if l8 != nil { return false }",
          "if !l7 { return false }"])]
    ∧ SerfModel.Gen.FilterLoop.defaultCase = ["return false"]
    ∧ SerfModel.Gen.FilterLoop.afterLoop = "return true" := ⟨rfl, rfl, rfl, rfl, rfl, rfl⟩

/-! Tag changes on a running node: every filter is judged against the tags in effect when the
query arrives. -/

theorem runQT_cfg (h : List QIn) : ∀ (cfg : NodeCfg) (b : Buf Nat),
    (runQT re cfg b h).1 = { cfg with tags := tagsAfter cfg.tags h } := by
  induction h with
  | nil => intro cfg b; rfl
  | cons i rest ih =>
    intro cfg b
    cases i with
    | query q => simp only [runQT, tagsAfter]; exact ih cfg _
    | setTags t => simp only [runQT, tagsAfter]; rw [ih]

theorem runQT_append (h1 h2 : List QIn) : ∀ (cfg : NodeCfg) (b : Buf Nat),
    runQT re cfg b (h1 ++ h2) =
      ((runQT re (runQT re cfg b h1).1 (runQT re cfg b h1).2.1 h2).1,
       (runQT re (runQT re cfg b h1).1 (runQT re cfg b h1).2.1 h2).2.1,
       (runQT re cfg b h1).2.2 ++ (runQT re (runQT re cfg b h1).1 (runQT re cfg b h1).2.1 h2).2.2) := by
  induction h1 with
  | nil => intro cfg b; simp [runQT]
  | cons i rest ih =>
    intro cfg b
    cases i with
    | query q => simp [runQT, ih]
    | setTags t => simp [runQT, ih]

/-- **Delivered ⇔ first seen in the window ∧ selected under the tags IN EFFECT.**  After
any history of queries and `SetTags` calls on the same node, a query is delivered
exactly when it is first-in-window and every filter passes for the node's name and
the tags of the LAST `SetTags` (the initial ones if there was none) — whatever the
same filter bytes evaluated to earlier under other tags. -/
theorem C08_delivered_iff_tags_in_effect (cfg : NodeCfg) (b : Buf Nat) (h : List QIn) (q : QueryMsg) :
    let st := runQT re cfg b h
    (runQT re cfg b (h ++ [.query q])).2.2 = st.2.2 ++ [(handleQuery re { cfg with tags := tagsAfter cfg.tags h } st.2.1 q).2]
    ∧ ((handleQuery re { cfg with tags := tagsAfter cfg.tags h } st.2.1 q).2.delivered = true ↔
        (firstInWindow st.2.1 q ∧ ∀ f ∈ q.filters, passes re { cfg with tags := tagsAfter cfg.tags h } f = true)) := by
  intro st
  refine ⟨?_, C08_delivered_iff re _ _ q⟩
  rw [runQT_append]
  simp only [runQT, runQT_cfg]
  rfl

-- the same tag filter `role ~ ^w` is sent before and after `SetTags role=db`: the first query is
-- delivered, the second is not (the trial change seeded/C08-e, below, delivers both)
example : ((runQT exRe exCfg (Buf.init 4)
    [.query exQ1, .setTags [("role", "db")], .query { exQ1 with lt := 6#64 }]).2.2.map (·.delivered)) = [true, false] := by
  decide +kernel

/-- A node that REMEMBERS tag-filter verdicts by filter, as the trial change `seeded/C08-e` to
`shouldProcessQuery` makes it (a memo table keyed by the encoded filter, never invalidated). -/
def evalMemo (cfg : NodeCfg) (memo : List (Filter × Bool)) (f : Filter) : Bool × List (Filter × Bool) :=
  match f with
  | .tag _ _ =>
    match alookup memo f with
    | some v => (v, memo)
    | none => (passes re cfg f, memo ++ [(f, passes re cfg f)])
  | _ => (passes re cfg f, memo)

/-- **Negation witness for the memoised shape**: evaluate `role ~ ^w` under `role=web`
(remembered: selected), change the tags to `role=db`, evaluate the same filter again —
the remembered verdict says "selected", the property (`passes` under the tags in effect)
says "not selected". -/
theorem C08_memo_counterexample :
    (evalMemo exRe { exCfg with tags := [("role", "db")] }
        (evalMemo exRe exCfg [] (.tag "role" "^w")).2 (.tag "role" "^w")).1
      ≠ passes exRe { exCfg with tags := [("role", "db")] } (.tag "role" "^w") := by decide +kernel

end SerfProofs.C08
