/-
C22 — Keyring changes are persisted and reload exactly.

Model: `SerfModel.Keyring` — memberlist's keyring operations transcribed, the three key
handlers of serf/internal_query.go followed by `writeKeyringFile`, and the agent's loader
`NewKeyring(keys, keys[0])`.  The file content is the key list written (base64/JSON round
trip assumed, exercised through the real loader by the harness).

All statements are for every ring, every request sequence (install / use / remove, with
valid keys, wrong lengths, absent keys, the primary, duplicates, undecodable payloads).
-/
import SerfProofs.Lemmas.Keyring
import SerfModel.Model.SourceShape
import SerfModel.Gen.KeyringPersist
namespace SerfProofs.C22
open SerfModel.Keyring SerfProofs.Keyring

/-- **Reload exactness**: a well-formed ring written to the file loads, at the next start,
into exactly the same key list — same keys, same order, hence the same primary key. -/
theorem C22_reload_exact (r : Ring) (h : RingOK r) : load r = some r := by
  cases r with
  | nil => exact absurd rfl h.1
  | cons p rest =>
    rw [load_cons, if_pos (h.2.2 p (by simp))]
    exact foldlM_addKey rest [p] h.2.1 (fun k hk => h.2.2 k (List.mem_cons_of_mem _ hk))

example : RingOK [List.replicate 16 1, List.replicate 24 2] := by decide

/-- the primary key after a reload is the primary key before it -/
theorem C22_reload_primary (r : Ring) (h : RingOK r) : (load r).map List.head? = some r.head? := by
  rw [C22_reload_exact r h]; rfl

/-- The three handlers differ only in the ring operation: install tests `hasFile` itself before it calls
`writeKeyringFile`, which tests it again. -/
theorem handle_some (n : Node) (op : Op) (k : Key) :
    handle n op (some k) =
      if n.ring.isEmpty then (n, .nokeyring)
      else match ringOp op n.ring k with
        | .error e => (n, e)
        | .ok r' => (⟨r', if n.hasFile then some r' else n.file, n.hasFile⟩, .ok) := by
  cases op <;> simp only [handle, ringOp, writeKeyringFile]
  · cases addKey n.ring k <;> cases n.hasFile <;> rfl
  · cases useKey n.ring k <;> cases n.hasFile <;> rfl
  · cases removeKey n.ring k <;> cases n.hasFile <;> rfl

theorem handle_cases (n : Node) (op : Op) (key : Option Key) :
    ((handle n op key).2 ≠ .ok ∧ (handle n op key).1 = n) ∨
    ∃ k r', key = some k ∧ ringOp op n.ring k = .ok r' ∧
      handle n op key = (⟨r', if n.hasFile then some r' else n.file, n.hasFile⟩, .ok) := by
  cases key with
  | none => exact .inl ⟨nofun, rfl⟩
  | some k =>
    rw [handle_some]
    split
    · exact .inl ⟨nofun, rfl⟩
    · cases h : ringOp op n.ring k with
      | error e => exact .inl ⟨ringOp_error_ne_ok h, rfl⟩
      | ok r' => exact .inr ⟨k, r', rfl, h, rfl⟩

/-- Every handler keeps the ring well-formed: `removeKey`, modelled for rings without duplicates,
never sees another. -/
theorem handle_RingOK (n : Node) (op : Op) (key : Option Key) (h : RingOK n.ring) :
    RingOK (handle n op key).1.ring := by
  rcases handle_cases n op key with ⟨_, e⟩ | ⟨k, r', _, hr, e⟩
  · rw [e]; exact h
  · rw [e]; exact RingOK_ringOp h hr

theorem run_cases (ops : List (Op × Option Key)) (n : Node) (hf : n.hasFile = true) (hok : RingOK n.ring) :
    RingOK (run n ops).ring ∧ (run n ops = n ∨ (run n ops).file = some (run n ops).ring) := by
  induction ops generalizing n with
  | nil => exact ⟨hok, .inl rfl⟩
  | cons o rest ih =>
    obtain ⟨op, key⟩ := o
    rcases handle_cases n op key with ⟨_, e⟩ | ⟨k, r', _, hr, e⟩
    · simpa [run, e] using ih n hf hok
    · have e' : (handle n op key).1 = ⟨r', some r', true⟩ := by rw [e, hf]; rfl
      have h := ih ⟨r', some r', true⟩ rfl (RingOK_ringOp hok hr)
      rw [run, e']
      exact ⟨h.1, .inr (h.2.elim (fun h2 => by rw [h2]) id)⟩

/-- **The file tracks the ring**: starting from a well-formed ring whose file holds it
(the agent was started from that file), after any sequence of requests — successful or
rejected — the file holds exactly the current ring, and the ring is still well-formed. -/
theorem C22_file_tracks (ops : List (Op × Option Key)) (n : Node) (hok : RingOK n.ring)
    (hf : n.hasFile = true) (h : n.file = some n.ring) :
    (run n ops).file = some (run n ops).ring ∧ RingOK (run n ops).ring := by
  obtain ⟨h1, h2⟩ := run_cases ops n hf hok
  exact ⟨h2.elim (fun e => by rw [e]; exact h) id, h1⟩

/-- **The property**: after any sequence of key requests the keyring file loads at the next
start into exactly the node's current key list (same keys, same primary). -/
theorem C22_persisted (ops : List (Op × Option Key)) (n : Node) (hok : RingOK n.ring)
    (hf : n.hasFile = true) (h : n.file = some n.ring) :
    ((run n ops).file.bind load) = some (run n ops).ring := by
  have := C22_file_tracks ops n hok hf h
  rw [this.1]
  exact C22_reload_exact _ this.2

example : (⟨[List.replicate 16 1], some [List.replicate 16 1], true⟩ : Node).file
    = some (⟨[List.replicate 16 1], some [List.replicate 16 1], true⟩ : Node).ring := by decide

/-- **A rejected request changes neither the keyring nor the file** (any node state). -/
theorem C22_rejected_noop (n : Node) (op : Op) (key : Option Key)
    (h : (handle n op key).2 ≠ .ok) : (handle n op key).1 = n := by
  rcases handle_cases n op key with ⟨_, e⟩ | ⟨k, r', _, _, e⟩
  · exact e
  · rw [e] at h; exact absurd rfl h

example : (handle ⟨[List.replicate 16 1], some [List.replicate 16 1], true⟩ .install (some [1, 2, 3])).2 ≠ .ok := by decide

/-- **The first accepted request creates the file** — whatever the file held before, also when it did not exist
(`n.file = none`: the keyring was handed over in memory and the configured file is not yet written): a request
answered `ok`, a no-op one included (a key already on the ring, an absent key removed, the primary used again),
leaves a file that holds exactly the ring. -/
theorem C22_ok_writes_file (n : Node) (op : Op) (key : Option Key) (hf : n.hasFile = true)
    (hok : (handle n op key).2 = .ok) :
    (handle n op key).1.file = some (handle n op key).1.ring ∧ (handle n op key).1.hasFile = true := by
  rcases handle_cases n op key with ⟨h, _⟩ | ⟨k, r', _, _, e⟩
  · exact absurd hok h
  · rw [e, hf]; exact ⟨rfl, rfl⟩

/-- **…and from then on the file tracks the ring** (any later requests, accepted or rejected). -/
theorem C22_file_tracks_after_first_ok (n : Node) (op : Op) (key : Option Key) (hring : RingOK n.ring)
    (hf : n.hasFile = true) (hok : (handle n op key).2 = .ok) (ops : List (Op × Option Key)) :
    (run n ((op, key) :: ops)).file = some (run n ((op, key) :: ops)).ring := by
  have h1 := C22_ok_writes_file n op key hf hok
  exact (C22_file_tracks ops _ (handle_RingOK n op key hring) h1.2 h1.1).1

-- a no-op install on a node whose file does not exist yet is answered ok and writes the file
example : (handle ⟨[List.replicate 16 1], none, true⟩ .install (some (List.replicate 16 1))).2 = .ok ∧
    (handle ⟨[List.replicate 16 1], none, true⟩ .install (some (List.replicate 16 1))).1.file = some [List.replicate 16 1] := by decide

/-- Without a configured keyring file nothing is ever written. -/
theorem C22_no_file (n : Node) (op : Op) (key : Option Key) (hf : n.hasFile = false) :
    (handle n op key).1.file = n.file := by
  rcases handle_cases n op key with ⟨_, e⟩ | ⟨k, r', _, _, e⟩
  · rw [e]
  · rw [e, hf]; rfl

/-! ## from the agent's start, without assumptions on the ring

`RingOK` is not an assumption about the node: it is what the loader produces, for every file
content (`C22_loader_wellformed`).  The invariant is "the file loads to the ring", not "the file
is the ring": a file edited by hand (duplicates) differs from the ring as a list but loads to it. -/

/-- **Whatever `loadKeyringFile` accepts is a well-formed ring**, for every file content. -/
theorem C22_loader_wellformed (f : List Key) (r : Ring) (h : load f = some r) : RingOK r := (load_some h).1

example : load [List.replicate 16 7, List.replicate 16 7, List.replicate 24 9] = some [List.replicate 16 7, List.replicate 24 9] := by decide +kernel

/-- The loader's acceptance rule: a file with an entry that is not 16, 24 or 32 bytes long is
refused as a whole (no entry is dropped silently), and so is an empty file. -/
theorem C22_loader_rejects_invalid (f : List Key) (k : Key) (hk : k ∈ f) (hv : validKey k = false) : load f = none := by
  cases h : load f with
  | none => rfl
  | some r => rw [(load_some h).2 k hk] at hv; cases hv

example : load [List.replicate 16 1, List.replicate 20 2] = none := by decide
example : load [] = none := by decide

/-- a 24-byte key is kept by the loader (it is a valid AES-192 key) -/
example : load [List.replicate 16 1, List.replicate 24 2, List.replicate 32 3]
    = some [List.replicate 16 1, List.replicate 24 2, List.replicate 32 3] := by decide +kernel

/-- The invariant of a running node: the keyring file loads to the node's ring. -/
def FileLoadsToRing (n : Node) : Prop := n.file.bind load = some n.ring

theorem run_fileLoadsToRing (ops : List (Op × Option Key)) (n : Node) (hf : n.hasFile = true)
    (hok : RingOK n.ring) (h : FileLoadsToRing n) : FileLoadsToRing (run n ops) := by
  obtain ⟨h1, h2 | h2⟩ := run_cases ops n hf hok
  · rw [h2]; exact h
  · unfold FileLoadsToRing
    rw [h2]; exact C22_reload_exact _ h1

/-- **C22, first sentence, from the agent's start.**  An agent started on ANY keyring file `f`
that its loader accepts (ring `r`), then handling ANY sequence of install / use / remove
requests — valid, wrong length, absent, primary, duplicate, undecodable; accepted or rejected —
always has a keyring file that loads, at the next start, into exactly its current ring: same
keys in the same order, hence the same primary key.  No assumption on `f`, `r` or the requests. -/
theorem C22_persisted_from_start (f : List Key) (r : Ring) (hload : load f = some r)
    (ops : List (Op × Option Key)) (n : Nat) :
    (run ⟨r, some f, true⟩ (ops.take n)).file.bind load = some (run ⟨r, some f, true⟩ (ops.take n)).ring ∧
    ((run ⟨r, some f, true⟩ (ops.take n)).file.bind load).map List.head? =
      some (run ⟨r, some f, true⟩ (ops.take n)).ring.head? := by
  have := run_fileLoadsToRing (ops.take n) ⟨r, some f, true⟩ rfl (load_some hload).1 hload
  exact ⟨this, by rw [this]; rfl⟩

example : load [List.replicate 16 1] = some [List.replicate 16 1] := by decide

/-- … and restarting (ring := what the file loads to) changes nothing, so the statement
extends over any number of restarts. -/
theorem C22_restart_same (n : Node) (h : FileLoadsToRing n) :
    ∃ f, n.file = some f ∧ load f = some n.ring :=
  Option.bind_eq_some_iff.mp h

/-- Without "the file loads to the ring" at the start (e.g. the file was replaced behind the
node's back) a rejected request leaves the mismatch: the hypothesis of `C22_file_tracks` /
the start condition of `C22_persisted_from_start` cannot be dropped. -/
theorem C22_start_condition_needed :
    let n : Node := ⟨[List.replicate 16 1], some [List.replicate 16 2], true⟩
    (run n [(.use, some (List.replicate 16 3))]).file.bind load ≠ some (run n [(.use, some (List.replicate 16 3))]).ring := by
  decide

/-- `RingOK` in `C22_reload_exact` cannot be dropped: a list with a duplicate or with a key of
a wrong length does not reload to itself (memberlist never produces such a ring:
`C22_loader_wellformed`, `handle_RingOK`). -/
theorem C22_ringOK_needed :
    load [List.replicate 16 1, List.replicate 16 1] ≠ some [List.replicate 16 1, List.replicate 16 1] ∧
    load [List.replicate 16 1, List.replicate 5 2] ≠ some [List.replicate 16 1, List.replicate 5 2] := by decide

/-- On a node with encryption enabled: install is rejected exactly for a wrong key length,
use exactly for a key not on the ring, remove exactly for the primary key; an undecodable
payload is always rejected. -/
theorem C22_rejection_classes (n : Node) (hok : RingOK n.ring) (k : Key) :
    ((handle n .install (some k)).2 = (if validKey k then .ok else .badlen)) ∧
    ((handle n .use (some k)).2 = (if n.ring.contains k then .ok else .absent)) ∧
    ((handle n .remove (some k)).2 = (if some k = n.ring.head? then .primary else .ok)) ∧
    (∀ op, (handle n op none).2 = .decode) := by
  have hst (op : Op) : (handle n op (some k)).2 =
      match ringOp op n.ring k with | .error e => e | .ok _ => .ok := by
    rw [handle_some, if_neg (by simpa using hok.1)]
    cases ringOp op n.ring k <;> rfl
  refine ⟨?_, ?_, ?_, fun op => rfl⟩
  · simp only [hst, ringOp, addKey]
    cases validKey k
    · rfl
    · cases n.ring.contains k <;> rfl
  · simp only [hst, ringOp, useKey]
    cases n.ring.contains k <;> rfl
  · rw [hst, ringOp]
    cases hr : n.ring with
    | nil => exact absurd hr hok.1
    | cons p rest =>
      rw [removeKey, List.head?_cons]
      by_cases hkp : k = p
      · simp [hkp]
      · simp only [beq_iff_eq, hkp, if_false, Option.some.injEq]
        cases (p :: rest).contains k <;> rfl

example : RingOK [List.replicate 16 1] := by decide

/-! ## the decisive shapes of the source (regenerated on every run)

`SerfModel.Gen.KeyringPersist` holds the statement skeletons of the three handlers, of
`writeKeyringFile`, of `loadKeyringFile` and of memberlist's keyring functions; the obligations
below are the facts about them that the model transcribes.  A whole skeleton against its literal
is `rfl` (literal matches literal); a search (`hasBlock`, `once`, `before`, `absent`) is evaluated
by the kernel, which has to decode every string it compares, so a fact already established for a
skeleton is reused, not evaluated again.

From here on `writeKeyringFile` also names the skeleton `Gen.KeyringPersist.writeKeyringFile` (a `List String`);
the model function of that name is told apart by its type. -/

open SerfModel.SourceShape SerfModel.Gen.KeyringPersist

/-- (statements in the extractor's canonical form: locals renamed v0, v1, … in order of first
occurrence — v0 the receiver, v1 the query, v2 the response, v3 the keyring, v4 the request) -/
def opLine (op : String) : String := "if v6 := v3." ++ op ++ "(v4.Key); v6 != nil {"
def writeLine : String := "if v7 := v0.serf.writeKeyringFile(); v7 != nil {"

/-- a handler first applies the ring operation, leaves (goto SEND) when it failed, and only
then writes the file; success is reported only after the write; the operation is reached
only with a decoded payload and encryption enabled -/
def handlerShapeOK (op : String) (sk : List String) : Bool :=
  hasBlock [opLine op, "v2.Message = v6.Error()", "goto SEND", "}"] sk &&
  hasBlock [writeLine, "v2.Message = v7.Error()", "goto SEND", "}"] sk &&
  before (opLine op) writeLine sk &&
  before writeLine "v2.Result = true" sk &&
  before "if !v0.serf.EncryptionEnabled() {" (opLine op) sk &&
  before "v5 = decodeMessage(v1.Payload[1:], &v4)" "if !v0.serf.EncryptionEnabled() {" sk &&
  hasBlock ["if len(v1.Payload) < 1 {", "goto SEND", "}"] sk &&
  hasBlock ["if v5 != nil {", "goto SEND", "}"] sk &&
  hasBlock ["v2.Result = true", "SEND:", "v0.sendKeyResponse(v1, &v2)"] sk

/-- **ring operation, then file write** (seeded C22-a persisted before validating) -/
theorem C22_src_handlers_op_then_write :
    handlerShapeOK "AddKey" handleInstallKey = true ∧
    handlerShapeOK "UseKey" handleUseKey = true ∧
    handlerShapeOK "RemoveKey" handleRemoveKey = true := by decide +kernel

/-- install writes only when a keyring file is configured (`handle`'s `.install` branch) -/
theorem C22_src_install_file_condition :
    hasBlock ["if v0.serf.config.KeyringFile != \"\" {", writeLine, "v2.Message = v7.Error()", "goto SEND", "}", "}"]
      handleInstallKey = true := by decide +kernel

/-- in serf/internal_query.go (the one file the extractor scans for this) the only calls whose callee mentions the
keyring file are the three handlers' calls of `writeKeyringFile` -/
theorem C22_src_only_writers :
    fileWriterCalls = ["handleInstallKey: serf.writeKeyringFile", "handleUseKey: serf.writeKeyringFile", "handleRemoveKey: serf.writeKeyringFile"] := rfl

/-- **the file is exactly `GetKeys()`, in ring order, primary first** (`writeKeyringFile` in
the model: `file := some ring`), and nothing is written without a configured file -/
theorem C22_src_writer_ring_order :
    hasBlock ["if len(v0.config.KeyringFile) == 0 {", "return nil", "}"] writeKeyringFile = true ∧
    hasBlock ["v2 := v1.GetKeys()", "v3 := make([]string, len(v2))", "for v4, v5 := range v2 {", "v3[v4] = base64.StdEncoding.EncodeToString(v5)", "}", "v6, v7 := json.MarshalIndent(v3, \"\", \" \")"] writeKeyringFile = true ∧
    once "if v7 = os.WriteFile(v0.config.KeyringFile, v6, 0600); v7 != nil {" writeKeyringFile = true ∧
    writeKeyringFile.length = 17 := by decide +kernel

/-- **the loader keeps every entry and takes the first as primary** (seeded C22-b dropped
24-byte keys): the decode loop stores each decoded entry at its index, has no `continue`
and no length test of its own; an empty list is an error; `NewKeyring(keys, keys[0])` -/
theorem C22_src_loader_keeps_all :
    hasBlock ["v7 := make([][]byte, len(v5))", "for v8, v9 := range v5 {", "v10, v11 := base64.StdEncoding.DecodeString(v9)", "if v11 != nil {", "return fmt.Errorf(\"Failed to decode key from keyring: %s\", v11)", "}", "v7[v8] = v10", "}", "if len(v7) == 0 {", "return fmt.Errorf(\"Keyring file contains no keys\")", "}", "v12, v4 := memberlist.NewKeyring(v7, v7[0])", "if v4 != nil {", "return fmt.Errorf(\"Failed to restore keyring: %s\", v4)", "}", "v0.conf.MemberlistConfig.Keyring = v12", "return nil"] loadKeyringFile = true ∧
    absent "continue" loadKeyringFile = true := by decide +kernel

/-- **the loader reads the WHOLE file** (seeded C22-d read through a 4 KiB LimitReader while the
writer has no bound): stat, `os.ReadFile`, `json.Unmarshal` of exactly those bytes, and nothing
else between them and the decode loop — the function has exactly these 31 statements -/
theorem C22_src_loader_reads_whole_file :
    hasBlock ["if _, v2 := os.Stat(v1); v2 != nil {", "return v2", "}", "v3, v4 := os.ReadFile(v1)", "if v4 != nil {", "return fmt.Errorf(\"Failed to read keyring file: %s\", v4)", "}", "v5 := make([]string, 0)", "if v6 := json.Unmarshal(v3, &v5); v6 != nil {", "return fmt.Errorf(\"Failed to decode keyring file: %s\", v6)", "}", "v7 := make([][]byte, len(v5))"] loadKeyringFile = true ∧
    loadKeyringFile.length = 31 ∧
    once "if v7 = os.WriteFile(v0.config.KeyringFile, v6, 0600); v7 != nil {" writeKeyringFile = true :=
  ⟨by decide +kernel, rfl, C22_src_writer_ring_order.2.2.1⟩

/-- the accepted key lengths are memberlist's -/
theorem C22_src_valid_lens : validKeyLens = validLens := rfl

/-- memberlist's keyring functions, as transcribed by `newKeyring`, `addKey`, `useKey`,
`removeKey`, `installKeys` (version pinned in go.mod) -/
theorem C22_src_memberlist :
    mlNewKeyring = ["v2 := &Keyring{}", "v2.init()", "if len(v0) > 0 || len(v1) > 0 {", "if len(v1) == 0 {", "return nil, fmt.Errorf(\"empty primary key not allowed\")", "}", "if v3 := v2.AddKey(v1); v3 != nil {", "return nil, v3", "}", "for _, v4 := range v0 {", "if v5 := v2.AddKey(v4); v5 != nil {", "return nil, v5", "}", "}", "}", "return v2, nil"] ∧
    mlAddKey = ["if v2 := ValidateKey(v1); v2 != nil {", "return v2", "}", "for _, v3 := range v0.keys {", "if bytes.Equal(v3, v1) {", "return nil", "}", "}", "v4 := append(v0.keys, v1)", "v5 := v0.GetPrimaryKey()", "if v5 == nil {", "v5 = v1", "}", "v0.installKeys(v4, v5)", "return nil"] ∧
    mlUseKey = ["for _, v2 := range v0.keys {", "if bytes.Equal(v1, v2) {", "v0.installKeys(v0.keys, v1)", "return nil", "}", "}", "return fmt.Errorf(\"requested key is not in the keyring\")"] ∧
    mlRemoveKey = ["if bytes.Equal(v1, v0.keys[0]) {", "return fmt.Errorf(\"removing the primary key is not allowed\")", "}", "for v2, v3 := range v0.keys {", "if bytes.Equal(v1, v3) {", "v4 := append(v0.keys[:v2], v0.keys[v2+1:]...)", "v0.installKeys(v4, v0.keys[0])", "}", "}", "return nil"] ∧
    mlInstallKeys = ["v0.l.Lock()", "defer v0.l.Unlock()", "v3 := [][]byte{v2}", "for _, v4 := range v1 {", "if !bytes.Equal(v4, v2) {", "v3 = append(v3, v4)", "}", "}", "v0.keys = v3"] :=
  ⟨rfl, rfl, rfl, rfl, rfl⟩

end SerfProofs.C22
