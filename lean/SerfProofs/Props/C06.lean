/-
C06 — Locally issued events and queries get unique, causally later Lamport times.

`SerfModel.Gen.ClockUse` records, from serf/serf.go, how `UserEvent` and `Query`
obtain the time they put into the message.  When that is a single atomic
increment (`TakesAtomically`), an originate call is exactly the translated
`Increment` of C19 and the theorems follow from the clock invariant, for any
number of concurrent callers, any incoming events (witness calls) and every
schedule.  `originated` = what `ltimeOf` makes of the values the atomic increments
produced so far: under `TakesAtomically` the Lamport times of all messages originated.
-/
import SerfProofs.Lemmas.Lamport
import SerfModel.Gen.ClockUse
namespace SerfProofs.C06
open SerfModel.Atomic SerfModel.Gen SerfModel.ClockUse SerfProofs.Lamport

/-- Source-tied obligations: both functions take their time with one atomic increment. -/
theorem C06_userEvent_atomic : TakesAtomically SerfModel.Gen.ClockUse.userEvent = true := by decide +kernel
theorem C06_query_atomic : TakesAtomically SerfModel.Gen.ClockUse.query = true := by decide +kernel

/-- `ltimeOf` of the values the run's atomic increments produced (newest first): the Lamport times of the
messages originated when `TakesAtomically u`.  A usage that takes the message time from `Time()` puts the
value read into the message, which this list does not show (`C06_old_*_shares_time` look at the calls'
results instead). -/
def originated (u : ClockUse) (s : Sys) : List W := s.incs.map (ltimeOf u)

theorem source_eq {u : ClockUse} (h : TakesAtomically u = true) : u.ltimeSource = "incrementMinus1" :=
  eq_of_beq (Bool.and_eq_true_iff.1 h).1

theorem progs_eq (u : ClockUse) (h : TakesAtomically u = true) : progs u = P := by
  simp [progs, prog, source_eq h, P, Lamport.progs, gen_increment]

theorem ltimeOf_eq (u : ClockUse) (h : TakesAtomically u = true) (r : W) : ltimeOf u r = r - 1#64 := by
  simp [ltimeOf, source_eq h]

/-- **No two originated messages share a Lamport time**, even when issued concurrently. -/
theorem C06_unique (u : ClockUse) (h : TakesAtomically u = true) (c : W) (calls : List (List Call))
    (sched : List Nat) (hno : NoOverflow (progs u) (Sys.init c calls) sched) :
    (originated u (run (progs u) (Sys.init c calls) sched)).Nodup := by
  rw [progs_eq u h] at hno ⊢
  refine List.Pairwise.map (ltimeOf u) ?_ (run_inv sched _ (SysInv.init c calls) hno).2.1.nodup
  intro a b hab heq
  rw [ltimeOf_eq u h, ltimeOf_eq u h] at heq
  exact hab ((BitVec.sub_left_inj _).1 heq)

/-- **Causally later.** Let `s1` be the schedule up to the moment a call begins.
Every message originated afterwards (during `s2`) carries a time strictly greater
than every time `v` whose processing (witness) had completed by then, and strictly
greater than the time of every message originated by then. -/
theorem C06_later (u : ClockUse) (h : TakesAtomically u = true) (c : W) (calls : List (List Call))
    (s1 s2 : List Nat) (hno : NoOverflow (progs u) (Sys.init c calls) (s1 ++ s2)) (r : W)
    (hr : r ∈ (run (progs u) (Sys.init c calls) (s1 ++ s2)).incs)
    (hnew : r ∉ (run (progs u) (Sys.init c calls) s1).incs) :
    (∀ (t : Nat) (th : Thread) (v : W), (run (progs u) (Sys.init c calls) s1).threads[t]? = some th → ⟨.witness v, none⟩ ∈ th.done →
        v < ltimeOf u r) ∧
    (∀ r' ∈ (run (progs u) (Sys.init c calls) s1).incs, ltimeOf u r' < ltimeOf u r) := by
  rw [progs_eq u h] at hno hr hnew ⊢
  obtain ⟨hno1, hno2⟩ := (noOverflow_append P s1 s2 _).1 hno
  obtain ⟨_, h1, hpos⟩ := run_inv s1 _ (SysInv.init c calls) hno1
  rw [run_append] at hr
  -- `r` was returned during `s2`, so it lies above the counter `c1` reached after `s1`;
  -- everything witnessed or originated by then is at most `c1`
  have hgt : (run P (Sys.init c calls) s1).counter < r :=
    ((run_inv s2 _ h1 hno2).2.2 r hr).resolve_left hnew
  -- `r - 1` does not wrap (`r` is above a counter), so it suffices to compare in ℕ
  have hr1 : (r - 1#64).toNat = r.toNat - 1 := toNat_sub_one (Nat.zero_lt_of_lt hgt)
  rw [ltimeOf_eq u h]
  constructor
  · intro t th v hth hdone
    have hd : v < (run P (Sys.init c calls) s1).counter := (h1.threads th (List.mem_of_getElem? hth)).2 _ hdone
    rw [BitVec.lt_def] at hd hgt ⊢
    omega
  · intro r' hr'
    have hle : r' ≤ (run P (Sys.init c calls) s1).counter := h1.incs_le r' hr'
    -- an increment never returns 0: it lies above the initial counter
    have h0 : c < r' := (hpos r' hr').resolve_left nofun
    rw [ltimeOf_eq u h, BitVec.lt_def, hr1, toNat_sub_one (Nat.zero_lt_of_lt h0)]
    rw [BitVec.lt_def] at hgt h0
    rw [BitVec.le_def] at hle
    omega

/-- Old usage of the event clock (before the repair): read, then increment. -/
def oldUserEvent : ClockUse := { ltimeSource := "time", later := ["increment"] }
/-- Old usage of the query clock: read only. -/
def oldQuery : ClockUse := { ltimeSource := "time", later := [] }

/-- Regression witness: with the old usage two concurrent `UserEvent` calls share a time. -/
theorem C06_old_userEvent_shares_time :
    let s := run (progs oldUserEvent) (Sys.init 5#64 [[.increment], [.increment]]) [0, 1, 0, 1, 0, 1, 0, 1]
    s.threads.map (fun th => th.done.map (fun d => d.result.map (ltimeOf oldUserEvent))) = [[some 5#64], [some 5#64]] := by
  decide +kernel

theorem C06_old_query_shares_time :
    let s := run (progs oldQuery) (Sys.init 5#64 [[.increment], [.increment]]) [0, 1, 0, 1, 0, 1]
    s.threads.map (fun th => th.done.map (fun d => d.result.map (ltimeOf oldQuery))) = [[some 5#64], [some 5#64]] := by
  decide +kernel

-- Non-vacuity: two concurrent originators and an incoming event at time 9.
example : NoOverflow (progs SerfModel.Gen.ClockUse.userEvent) (Sys.init 5#64 [[.increment], [.increment], [.witness 9#64]])
    [0, 1, 2, 2, 2, 2, 2, 2, 0, 1, 0, 1] := by decide +kernel
example : originated SerfModel.Gen.ClockUse.userEvent (run (progs SerfModel.Gen.ClockUse.userEvent)
    (Sys.init 5#64 [[.increment], [.increment], [.witness 9#64]]) [0, 1, 2, 2, 2, 2, 2, 2, 0, 1, 0, 1]) = [11#64, 10#64] := by decide +kernel

end SerfProofs.C06
