/-
C05 — Each user event reaches the application at most once per node.

Model: `SerfModel.EventBuf` (`handleUserEvent` of serf/serf.go and the event
replay of `MergeRemoteState` in serf/delegate.go), with the event clock advanced
by the `Witness` program regenerated from serf/lamport.go.

An event is identified by (Lamport time, item) where the item is (name, payload);
the theorems are generic in the item type (only equality is used, as in
`userEvent.Equals`).  Histories are arbitrary lists of gossip deliveries and
push/pull replays of arbitrary buffer images with or without the join-ignore
raise of the cut-off; the buffer size is any `0 < N < 2^64` (`len` of a Go slice);
the node may start from any clock and cut-off (fresh start or snapshot restart).

Hypotheses that stay, and why:
* `0 < N`: with `EventBuffer = 0` the real code divides by zero in
  `LTime % LamportTime(len(buf))` and panics on the first event — a configuration,
  not an input (C09 is about inputs); the model is meaningless there.
* `N < 2^64`: `len` of a Go slice is an `int`; needed so that `LamportTime(len(buf))`
  is `N` itself.
* `NoWrap` (at-most-once and the history forms that rest on the buffer invariant: `C05_slot_times`, the two
  `…_iff_…_partial` theorems, `C05_fresh_exactly_once_partial`): necessary, see `C05_at_most_once_counterexample`
  (replayed on a real node on every run: recorded finding `redelivery-after-wrap`).

FULL STATEMENT (not provable — the code violates it, see the counterexample):

    theorem C05_at_most_once (N) (hN : 0 < N) (hN2 : N < 2^64) (c m : W) (ins : List (In α)) :
        (deliveries (Buf.start N c m) ins).Nodup

`Witness(2^64−1)` wraps the event clock to 0 (C19's recorded finding), which
disables the too-old guard; with a slot collision an evicted event is delivered
again.  Proved instead: the statement under `NoWrap ins` (no input carries the
time 2^64−1) and the negation witness at 2^64−1.
-/
import SerfProofs.Lemmas.EventBuf
import SerfModel.Gen.BufLocks
import SerfModel.Gen.BufHandler
import SerfModel.Gen.PushPullReplay
import SerfProofs.Lemmas.BufHandlerIR
namespace SerfProofs.C05
open SerfModel.Atomic SerfModel.EventBuf SerfProofs.EventBuf

variable {α : Type} [DecidableEq α]

theorem inv_history (N : Nat) (hN : 0 < N) (hN2 : N < 2 ^ 64) (c m : W) (ins : List (In α)) (hnw : NoWrap ins) :
    Inv (SerfModel.EventBuf.run (Buf.start N c m) ins).1 (deliveries (Buf.start N c m) ins) := by
  simpa [deliveries] using run_inv hnw (Inv.start hN hN2 c m)

/-- **At most once.** For every buffer size, every start state and every history
without the time 2^64−1, no (time, name, payload) is handed to the application twice. -/
theorem C05_at_most_once_partial (N : Nat) (hN : 0 < N) (hN2 : N < 2 ^ 64) (c m : W)
    (ins : List (In α)) (hnw : NoWrap ins) :
    (deliveries (Buf.start N c m) ins).Nodup :=
  (inv_history N hN hN2 c m ins hnw).nodup

/-- The same for the state right after `Create` without a snapshot. -/
theorem C05_at_most_once_fresh_node_partial (N : Nat) (hN : 0 < N) (hN2 : N < 2 ^ 64)
    (ins : List (In α)) (hnw : NoWrap ins) :
    (deliveries (Buf.init N) ins).Nodup :=
  C05_at_most_once_partial N hN hN2 1#64 0#64 ins hnw

-- non-vacuity: a history with a duplicate, a slot collision, a too-old event and a
-- push/pull replay satisfies `NoWrap`, and delivers what one expects.
example : NoWrap (α := Nat) [.gossip 1#64 7, .gossip 1#64 7, .gossip 3#64 8,
    .pushPull 9#64 false [some (1#64, [7, 9]), none, some (8#64, [7])], .gossip 1#64 9] := .of_all (by decide +kernel)
example : deliveries (α := Nat) (Buf.init 2) [.gossip 1#64 7, .gossip 1#64 7, .gossip 3#64 8,
    .pushPull 9#64 false [some (1#64, [7, 9]), none, some (8#64, [7])], .gossip 1#64 9]
    = [(1#64, 7), (3#64, 8), (8#64, 7)] := by decide +kernel

/-- **Exactly when delivered** (one step): an event is handed to the application
iff it is not below the cut-off, not too old under the clock after witnessing it,
and not already recorded in its slot for the same time. -/
theorem C05_delivered_iff (b : Buf α) (lt : W) (x : α) :
    (handle b lt x).2 = .delivered ↔
      (¬ lt < b.minTime ∧ tooOld b.slots.length (witness b.clock lt) lt = false
        ∧ x ∉ seenAt b.slots (slotIdx b.slots.length lt) lt) :=
  handle_delivered_iff b lt x

/-- **A first-time event inside the window is delivered** — state form.  In any
state whose slots only hold delivered events (`SlotsIn`, an invariant of every
reachable and every intermediate state, with no hypothesis on the times), an event
that was not delivered before, whose time is not below the cut-off and lies within
the window `lt + N ≥ clock` (clock taken after witnessing the event) is delivered. -/
theorem C05_fresh_delivered_state (b : Buf α) (D : List (W × α)) (hs : SlotsIn b D)
    (hN2 : b.slots.length < 2 ^ 64) (lt : W) (x : α)
    (hfirst : (lt, x) ∉ D) (hmin : ¬ lt < b.minTime)
    (hwin : ¬ lt.toNat + b.slots.length < (witness b.clock lt).toNat) :
    (handle b lt x).2 = .delivered :=
  (handle_delivered_iff b lt x).2 ⟨hmin, Bool.eq_false_iff.2 fun hto => hwin ((tooOld_iff hN2 _ _).1 hto),
    fun hmem => hfirst (hs _ _ _ (slot_of_mem_seenAt hmem) x hmem)⟩

theorem slotsIn_history (N : Nat) (c m : W) (ins : List (In α)) :
    SlotsIn (SerfModel.EventBuf.run (Buf.start N c m) ins).1 (deliveries (Buf.start N c m) ins) := by
  simpa [deliveries] using run_slotsIn ins (slotsIn_start (α := α) N c m)

/-- **A first-time event inside the window is delivered** — after *any* history
(gossip and push/pull, any times), for an event arriving by gossip: not delivered
before (in particular: received for the first time), not below the join/restart
cut-off, inside the recent-event window. -/
theorem C05_fresh_delivered (N : Nat) (hN2 : N < 2 ^ 64) (c m : W) (ins : List (In α))
    (lt : W) (x : α)
    (hfirst : (lt, x) ∉ deliveries (Buf.start N c m) ins)
    (hmin : ¬ lt < (SerfModel.EventBuf.run (Buf.start N c m) ins).1.minTime)
    (hwin : ¬ lt.toNat + N < (witness (SerfModel.EventBuf.run (Buf.start N c m) ins).1.clock lt).toNat) :
    (handle (SerfModel.EventBuf.run (Buf.start N c m) ins).1 lt x).2 = .delivered :=
  C05_fresh_delivered_state _ _ (slotsIn_history N c m ins) (by simpa [run_length, Buf.start] using hN2) lt x hfirst hmin
    (by simpa [run_length, Buf.start] using hwin)

/-- The same for an event arriving inside a push/pull replay: after any history,
the prelude of `MergeRemoteState` (remote clock witnessed, cut-off possibly raised)
and the part `pre` of the image replayed before it. -/
theorem C05_fresh_delivered_in_replay (N : Nat) (hN2 : N < 2 ^ 64) (c m : W) (ins : List (In α))
    (e : W) (raise : Bool) (pre : List (W × α)) (lt : W) (x : α) :
    let b0 := (SerfModel.EventBuf.run (Buf.start N c m) ins).1
    let b1 := handleAll (raiseMin (witnessRemote b0 e) raise e) pre
    (lt, x) ∉ deliveries (Buf.start N c m) ins ++ b1.2 →
    ¬ lt < b1.1.minTime →
    ¬ lt.toNat + N < (witness b1.1.clock lt).toNat →
    (handle b1.1 lt x).2 = .delivered := by
  intro b0 b1 hfirst hmin hwin
  obtain ⟨c', m', -, -, he⟩ := prelude_eq b0 e raise
  have hs : SlotsIn b1.1 (deliveries (Buf.start N c m) ins ++ b1.2) :=
    handleAll_slotsIn pre (he ▸ slotsIn_history N c m ins)
  have hlen : b1.1.slots.length = N := by simp [b1, b0, handleAll_length, prelude_length, run_length, Buf.start]
  exact C05_fresh_delivered_state b1.1 _ hs (hlen ▸ hN2) lt x hfirst hmin (hlen ▸ hwin)

-- non-vacuity of C05_fresh_delivered: after a history, a new payload at a time still
-- inside the window is delivered.
example : (handle (SerfModel.EventBuf.run (α := Nat) (Buf.start 2 1#64 0#64)
    [.gossip 1#64 7, .gossip 3#64 8]).1 2#64 5).2 = .delivered := by decide +kernel

-- non-vacuity of C05_fresh_delivered_in_replay: a join push/pull with the cut-off raised to 9
-- replays (9, 7); a new event at time 10 arriving next in the same replay is delivered.
example : (handle (handleAll (raiseMin (witnessRemote (SerfModel.EventBuf.run (α := Nat) (Buf.start 2 1#64 0#64)
    [.gossip 1#64 7]).1 9#64) true 9#64) [(9#64, 7)]).1 10#64 5).2 = .delivered := by decide +kernel

/-- Every slot's time is congruent to its index and below the clock. -/
def SlotTimes (b : Buf α) : Prop :=
  ∀ (i : Nat) (t : W) (xs : List α), b.slots[i]? = some (some (t, xs)) →
    t.toNat % b.slots.length = i ∧ t.toNat < b.clock.toNat

/-- **Slot discipline.** After every history without the time 2^64−1, every
occupied slot `i` holds a time `t` with `t ≡ i (mod N)` and `t < clock`. -/
theorem C05_slot_times (N : Nat) (hN : 0 < N) (hN2 : N < 2 ^ 64) (c m : W) (ins : List (In α))
    (hnw : NoWrap ins) : SlotTimes (SerfModel.EventBuf.run (Buf.start N c m) ins).1 :=
  (inv_history N hN hN2 c m ins hnw).slotTimes

-- non-vacuity of C05_slot_times: its hypotheses are satisfiable
example : SlotTimes (SerfModel.EventBuf.run (α := Nat) (Buf.start 2 1#64 0#64) [.gossip 1#64 7, .gossip 3#64 8]).1 :=
  C05_slot_times 2 (by decide) (by decide) 1#64 0#64 _ (.of_all (by decide +kernel))

/-- **Negation witness (buffer of 2, three messages).**  Event `a` at time 1 is
delivered; an event at time 2^64−1 (same slot) wraps the event clock to 0 and
evicts it; the duplicate of `a` is then neither too old nor found in its slot and
is delivered a second time. -/
theorem C05_at_most_once_counterexample :
    ¬ (deliveries (α := Nat) (Buf.init 2)
        [.gossip 1#64 0, .gossip (BitVec.allOnes 64) 1, .gossip 1#64 0]).Nodup := by decide +kernel

theorem C05_counterexample_deliveries :
    deliveries (α := Nat) (Buf.init 2) [.gossip 1#64 0, .gossip (BitVec.allOnes 64) 1, .gossip 1#64 0]
      = [(1#64, 0), (BitVec.allOnes 64, 1), (1#64, 0)] := by decide +kernel

/-- Source-tied obligation: in `handleUserEvent` the first call on `eventLock` is `Lock`, the unlock is
deferred, the mutex is not touched again, and no statement before the lock mentions the buffer or the cut-off
(the extractor folds that into `earlyUnlock`).  So the check-and-record section — all of `handle` but the
`Witness`, which the source calls before it takes the lock — is one critical section.  `handle` takes the
`Witness` and that section as one step (`cur = witness clock lt`): deliveries are modelled one after the other,
and a concurrent delivery whose `Witness` falls between the two is not. -/
theorem C05_handler_holds_lock : SerfModel.Gen.BufLocks.handleUserEvent.wholeBodyExclusive = true := by decide +kernel

/-! Where 2^64−1 enters: only through `SerfProofs.EventBuf.witness_nat` (witnessing a
time ≠ 2^64−1 never moves the clock back and moves it past the time), for the clauses of
`Inv` that compare with the clock.  Everything that needs only "what sits in a slot was
delivered" (`SlotsIn`) — in particular "a fresh event inside the window IS delivered" —
holds for all 64-bit times. -/

/-- **Delivered ⇔ (not below the cut-off ∧ inside the window ∧ not delivered
before)** — state form.  `Inv b D` holds in every state reached by a history
without the time 2^64−1 (gossip and push/pull replays mixed, also in the middle of a
replay); the arriving time `lt` itself is arbitrary (2^64−1 included). -/
theorem C05_delivered_iff_inv (b : Buf α) (D : List (W × α)) (h : Inv b D) (lt : W) (x : α) :
    (handle b lt x).2 = .delivered ↔
      (¬ lt < b.minTime ∧ ¬ lt.toNat + b.slots.length < (witness b.clock lt).toNat ∧ (lt, x) ∉ D) := by
  refine ⟨fun hd => ?_, fun ⟨h1, h2, h3⟩ => C05_fresh_delivered_state b D h.slotsIn h.lt64 lt x h3 h1 h2⟩
  obtain ⟨h1, h2, h3⟩ := (handle_delivered_iff b lt x).1 hd
  rw [Bool.eq_false_iff, Ne, tooOld_iff h.lt64] at h2
  refine ⟨h1, h2, fun hmem => h3 ?_⟩
  rw [slotIdx_eq h.lt64]
  refine h.inSlot (lt, x) hmem fun (hlt : lt.toNat + _ < _) => h2 (Nat.lt_of_lt_of_le hlt ?_)
  -- the clock does not go back when `lt` is witnessed; at 2^64−1 the window is empty anyway
  by_cases hmax : lt = maxW
  · have h64 : lt.toNat = 2 ^ 64 - 1 := by rw [hmax]; rfl
    omega
  · exact (witness_bounds _ hmax).1

/-- **Delivered ⇔ …** for an event arriving by gossip after any history (gossip and
push/pull replays mixed) without the time 2^64−1. -/
theorem C05_delivered_iff_history_partial (N : Nat) (hN : 0 < N) (hN2 : N < 2 ^ 64) (c m : W)
    (ins : List (In α)) (hnw : NoWrap ins) (lt : W) (x : α) :
    (handle (SerfModel.EventBuf.run (Buf.start N c m) ins).1 lt x).2 = .delivered ↔
      (¬ lt < (SerfModel.EventBuf.run (Buf.start N c m) ins).1.minTime
       ∧ ¬ lt.toNat + N < (witness (SerfModel.EventBuf.run (Buf.start N c m) ins).1.clock lt).toNat
       ∧ (lt, x) ∉ deliveries (Buf.start N c m) ins) := by
  simpa [run_length, Buf.start] using C05_delivered_iff_inv _ _ (inv_history N hN hN2 c m ins hnw) lt x

/-- **Delivered ⇔ …** for an event in the middle of a push/pull replay: after any
history, the prelude of `MergeRemoteState` and the part `pre` of the image already
replayed (all without the time 2^64−1). -/
theorem C05_delivered_iff_in_replay_partial (N : Nat) (hN : 0 < N) (hN2 : N < 2 ^ 64) (c m : W)
    (ins : List (In α)) (hnw : NoWrap ins) (e : W) (raise : Bool) (pre : List (W × α))
    (hpre : ∀ p ∈ pre, p.1 ≠ maxW) (lt : W) (x : α) :
    let b0 := (SerfModel.EventBuf.run (Buf.start N c m) ins).1
    let b1 := handleAll (raiseMin (witnessRemote b0 e) raise e) pre
    (handle b1.1 lt x).2 = .delivered ↔
      (¬ lt < b1.1.minTime ∧ ¬ lt.toNat + N < (witness b1.1.clock lt).toNat
       ∧ (lt, x) ∉ deliveries (Buf.start N c m) ins ++ b1.2) := by
  intro b0 b1
  obtain ⟨c', m', hc, -, he⟩ := prelude_eq b0 e raise
  have h1 : Inv b1.1 (deliveries (Buf.start N c m) ins ++ b1.2) :=
    handleAll_inv hpre (he ▸ (inv_history N hN hN2 c m ins hnw).mono c' m' hc)
  have hlen : b1.1.slots.length = N := by simp [b1, b0, handleAll_length, prelude_length, run_length, Buf.start]
  simpa [hlen] using C05_delivered_iff_inv b1.1 _ h1 lt x

-- `C05_delivered_iff_history_partial` on the history of the `SlotTimes` example (`NoWrap` is shown there),
-- for a repeat: not delivered, and recorded before
example : (handle (SerfModel.EventBuf.run (α := Nat) (Buf.start 2 1#64 0#64) [.gossip 1#64 7, .gossip 3#64 8]).1 3#64 8).2
    ≠ .delivered := by decide +kernel
example : (3#64, 8) ∈ deliveries (α := Nat) (Buf.start 2 1#64 0#64) [.gossip 1#64 7, .gossip 3#64 8] := by decide +kernel

/-- **A fresh event inside the window is delivered exactly once.**  Whatever the
history before (`pre`) and after (`post`) — gossip and push/pull mixed — without the
time 2^64−1: an event that arrives by gossip, was not delivered before, is not
below the cut-off and lies inside the window occurs exactly once in everything the
application ever receives.  (Its delivery at arrival needs no hypothesis on the
times: `C05_fresh_delivered`; "never again" is where `NoWrap` is needed, and
`C05_at_most_once_counterexample` shows it cannot be dropped.) -/
theorem C05_fresh_exactly_once_partial (N : Nat) (hN : 0 < N) (hN2 : N < 2 ^ 64) (c m : W)
    (pre post : List (In α)) (lt : W) (x : α)
    (hnw : NoWrap (pre ++ [.gossip lt x] ++ post))
    (hfirst : (lt, x) ∉ deliveries (Buf.start N c m) pre)
    (hmin : ¬ lt < (SerfModel.EventBuf.run (Buf.start N c m) pre).1.minTime)
    (hwin : ¬ lt.toNat + N < (witness (SerfModel.EventBuf.run (Buf.start N c m) pre).1.clock lt).toNat) :
    (deliveries (Buf.start N c m) (pre ++ [.gossip lt x] ++ post)).count (lt, x) = 1 := by
  have hdel := C05_fresh_delivered N hN2 c m pre lt x hfirst hmin hwin
  have hmem : (lt, x) ∈ deliveries (Buf.start N c m) (pre ++ [.gossip lt x] ++ post) := by
    simp [deliveries, run_append, SerfModel.EventBuf.run, stepIn_gossip, hdel]
  rw [List.Nodup.count (C05_at_most_once_partial N hN hN2 c m _ hnw), if_pos hmem]

example : (deliveries (α := Nat) (Buf.start 2 1#64 0#64)
    ([.gossip 1#64 7] ++ [.gossip 3#64 8] ++ [.gossip 3#64 8, .pushPull 0#64 false [some (3#64, [8])]])).count (3#64, 8) = 1 := by
  decide +kernel

/-- **Source tie (regenerated on every run): the body of `handleUserEvent`.**
`Gen/BufHandler.lean` is the translation of the function body in serf/serf.go into the IR, in the
extractor's canonical form: witness → `curTime := eventClock.Time()` → `idx := LTime % LamportTime(len(buf))`
(the two pure definitions, moved up past the guards, which change nothing they read) → cut-off guard →
too-old guard `curTime > LamportTime(len(buf)) && LTime < curTime-LamportTime(len(buf))` → slot load →
same-time test / `Equals` loop / fresh record stored into the slot → append → delivery → `return true`.
It is the body the proofs are about. -/
theorem C05_gen_handler_body :
    SerfModel.Gen.BufHandler.handleUserEvent = SerfProofs.BufHandlerIR.ueBody := rfl

/-- **The translated body IS the model.** For every buffer, message time and item,
interpreting the regenerated body of `handleUserEvent` yields exactly
`EventBuf.handle`: the same buffer afterwards, and it returns `true` (re-broadcast)
and sends on the event channel exactly when the model's outcome is `delivered`.
An edit of a guard expression, of `curTime`, of the slot index, of the order of
the statements (other than where the two pure definitions stand among the guards),
of the duplicate test or a dropped update changes the generated body and breaks
this obligation (or makes the translator fail). -/
theorem C05_handler_body_is_model (ctx : SerfModel.BufHandlerIR.Ctx) (b : Buf α) (lt : W) (x : α) :
    (SerfModel.BufHandlerIR.run SerfModel.Gen.BufHandler.handleUserEvent ctx b lt x).1.buf = (handle b lt x).1
    ∧ (SerfModel.BufHandlerIR.run SerfModel.Gen.BufHandler.handleUserEvent ctx b lt x).2
        = decide ((handle b lt x).2 = .delivered)
    ∧ (SerfModel.BufHandlerIR.run SerfModel.Gen.BufHandler.handleUserEvent ctx b lt x).1.delivered
        = decide ((handle b lt x).2 = .delivered) := by
  rw [C05_gen_handler_body]
  exact SerfProofs.BufHandlerIR.ueBody_is_handle ctx b lt x

/-- **Source tie (regenerated on every run): the user-event part of
`MergeRemoteState`.**  The guard and argument of the remote-clock witness, the
join-ignore raise of the cut-off (outer guard `isJoin && eventJoinIgnore`, test
`pp.EventLTime > eventMinTime`, assignment, under `eventLock`), the replay loop (every
event of every non-nil slot through `handleUserEvent`, time from the slot, name and
payload from the event) and the order witness → raise → replay are the ones
`EventBuf.witnessRemote` / `raiseMin` / `flatten` / `stepIn` model. -/
theorem C05_gen_replay_shape : SerfModel.Gen.PushPullReplay.shape = modelledReplayShape := rfl

end SerfProofs.C05
