import SerfModel.Gen.PanicSites
/-!
C09, part 1: the generated panic-site obligations (`SerfModel.Gen.PanicSites`, regenerated from /repo/serf and
/repo/coordinate on every run) are discharged by one generic tactic that names no site, local variable or statement
position.  A behaviour-preserving rewrite whose sites are all still guarded re-proves by itself; what fails is an
undischargeable site: a guard that disappeared from the source, or a new unguarded index/slice/map write/send/… in
any function reachable from the memberlist delegates.

The hypotheses of an obligation are the guards the extractor's walk finds in front of the site AND the assumptions it
marks `[inv]`, `[config]`, `[contract]`, `[caller]` in the site's doc comment (object invariants, the positive buffer
sizes, call contracts; each with its justification there).  Where such an assumption is the safety condition itself the
obligation reads `P → P`: it records that the site rests on that assumption.  In `C09.lean` the hypothesis `WF` of the
theorems supplies the ones the skeleton's sites need.
-/
namespace SerfProofs.C09
open SerfModel.Gen.PanicSites

/-- one site obligation: introduce the path condition; linear arithmetic, or `Nat.mod_lt` for the `x % len(buffer)` indices -/
macro "site_tac" : tactic => `(tactic| ((repeat intro _); first
  | omega
  | (subst_vars; exact Nat.mod_lt _ (by assumption))
  | (subst_vars; (repeat' (apply And.intro)) <;>
      first | omega | exact Nat.mod_lt _ (by omega) | (intro _; exact Nat.mod_lt _ (by omega)))))

/-- `site! n`: the proof of the generated site obligation `n`, by the generic tactic -/
macro "site! " n:ident : term => `((by unfold $n; site_tac : $n))

/-- every panic site the extractor lists — whatever the current inventory is — is safe under its path condition and the
assumptions listed in its doc comment -/
theorem C09_all_sites : allSites := by
  unfold allSites
  repeat' (apply And.intro)
  all_goals site_tac

end SerfProofs.C09
