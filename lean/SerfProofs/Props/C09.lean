import SerfModel.Model.Handlers
import SerfProofs.Props.C09Sites
import SerfProofs.Lemmas.Ite
import SerfProofs.Lemmas.StrCode
/-!
C09 — no network input crashes a node.

Part 1 (`C09Sites.lean`): every panic-capable expression the extractor finds in the functions reachable from the
memberlist delegates is safe under the path condition derived from the source and the invariant / configuration /
contract assumptions the extractor lists with the site (`C09_all_sites`).

Part 2 (here): the control skeleton of the handlers (`SerfModel.Handlers`), which has a `.panic site` outcome wherever
the code indexes, slices, takes a modulo, writes to a possibly-nil map or sends on a possibly-closed channel, never
reaches `.panic`: for EVERY byte string, EVERY decoder (the decode step is an oracle: any total function to `Option`),
every scheduling of the reply channel and every state satisfying `WF` (positive buffer sizes — the configuration
precondition — and the constructor invariants of open queries).  The guard facts used in the proofs are instances of
the site obligations of part 1 (`site!`), so a guard removed from the source breaks part 1 and with it the premises
here; the two `C09_skeleton_*` checks tie the skeleton's `.panic` sites to the regenerated inventory.
-/
namespace SerfProofs.C09
open SerfModel.Handlers SerfModel.Gen.PanicSites SerfProofs

/- The conclusions as predicates on a handler's result, so that its body occurs once in a goal (the `C09_*`
theorems spell them out). -/
def NoPanic (o : Outcome) : Prop := ∀ s, o ≠ .panic s
def Safe (cfg : Cfg) (r : State × Outcome) : Prop := NoPanic r.2 ∧ WF cfg r.1

theorem NoPanic.ok {b : Bool} : NoPanic (.ok b) := fun _ => nofun
theorem NoPanic.ignored {w : String} : NoPanic (.ignored w) := fun _ => nofun

theorem slice1_ok {site : String} {x : List Nat} (h : 1 ≤ x.length) : slice1 site x = .val (x.drop 1) :=
  if_pos h

/-- the hypotheses are the conclusions of the index and of the slice obligation of an entry point.  `∀ site`: the function's
further index / slice sites on the same buffer (`…_index_2`, `…_slice_2`, …) stand under the same guard and are these
propositions again. -/
theorem first_byte {x : List Nat} (hidx : 0 < x.length) (hs : 1 ≤ x.length ∧ x.length ≤ x.length) :
    ∃ t, x[0]? = some t ∧ ∀ site, slice1 site x = .val (x.drop 1) :=
  ⟨_, List.getElem?_eq_getElem hidx, fun _ => slice1_ok hs.1⟩

theorem bufferStep_ok (sd si si2 : String) (buf : List (Option Nat)) (minT clock lt : Nat) (hpos : 0 < buf.length) :
    ∃ b' f, bufferStep sd si si2 buf minT clock lt = .val (b', f) ∧ b'.length = buf.length := by
  unfold bufferStep
  by_cases h1 : lt < minT
  · exact ⟨buf, false, if_pos h1, rfl⟩
  by_cases h2 : clock > buf.length ∧ lt < clock - buf.length
  · exact ⟨buf, false, by rw [if_neg h1, if_pos h2], rfl⟩
  -- the index obligations of handleUserEvent; those of handleQuery are the same propositions
  have hidx : lt % buf.length < buf.length :=
    (site! site_Serf_handleUserEvent_index_1) lt minT clock buf.length (lt % buf.length) h1 h2 rfl hpos
  have hidx2 : ∀ ptr t, ¬ (ptr ≠ 0 ∧ t = lt) → lt % buf.length < buf.length := fun ptr t hp =>
    (site! site_Serf_handleUserEvent_index_2) lt minT clock buf.length (lt % buf.length) ptr t h1 h2 rfl hp hpos
  simp only [if_neg h1, if_neg h2, show ¬ buf.length = 0 by omega, if_false, List.getElem?_eq_getElem hidx]
  cases buf[lt % buf.length] with
  | none => exact ⟨_, true, if_pos (hidx2 0 0 (by simp)), by simp⟩
  | some t =>
    by_cases ht : t = lt
    · exact ⟨buf, true, if_pos ht, rfl⟩
    · exact ⟨buf.set (lt % buf.length) (some lt), true, by simp only [if_neg ht, if_pos (hidx2 1 t fun h => ht h.2)], by simp⟩

theorem shouldProcess_ok (d : Dec) : ∀ fs : List (List Nat), ∃ b, shouldProcess d fs = .val b := by
  intro fs
  induction fs with
  | nil => exact ⟨true, rfl⟩
  | cons f rest ih =>
    unfold shouldProcess
    refine ite_prop (fun r => ∃ b, r = Res.val b) (fun _ => ⟨false, rfl⟩) fun h0 => ?_
    obtain ⟨t, ht, hs⟩ := first_byte ((site! site_Serf_shouldProcessQuery_index_1) f.length h0)
      ((site! site_Serf_shouldProcessQuery_slice_1) f.length h0)
    simp only [ht, hs]
    refine ite_prop (fun r => ∃ b, r = Res.val b) (fun _ => ?_) fun _ => ?_
    · cases d.filterNode (f.drop 1) with
      | none => exact ⟨false, rfl⟩
      | some v => cases v with
        | true => exact ih
        | false => exact ⟨false, rfl⟩
    refine ite_prop (fun r => ∃ b, r = Res.val b) (fun _ => ?_) fun _ => ⟨false, rfl⟩
    cases d.filterTag (f.drop 1) with
    | none => exact ⟨false, rfl⟩
    | some v => cases v with
      | true => exact ih
      | false => exact ⟨false, rfl⟩

theorem keyHandler_ok (site : String) (d : Dec) (p : List Nat) : NoPanic (keyHandler site d p) := by
  unfold keyHandler
  refine ite_prop NoPanic (fun _ => .ignored) fun h => ?_
  -- the slice obligations of handleUseKey and handleRemoveKey are this proposition again
  simp only [slice1_ok ((site! site_serfQueries_handleInstallKey_slice_1) p.length h).1]
  cases d.keyRequest (p.drop 1) with
  | none => exact .ignored
  | some _ => exact .ok

theorem internalQuery_ok (d : Dec) (q : Query) : NoPanic (internalQuery d q) := by
  unfold internalQuery
  refine ite_prop NoPanic (fun hp => ?_) fun _ => .ok
  -- the caller's HasPrefix test is the hypothesis of the slice obligation
  rw [if_pos ((site! site_serfQueries_handleQuery_slice_1) internalPrefix.length q.name.length internalPrefix.length
    ⟨(List.isPrefixOf_iff_prefix.mp hp).length_le, rfl⟩).1]
  refine ite_prop NoPanic (fun _ => keyHandler_ok _ d _) fun _ => ?_
  refine ite_prop NoPanic (fun _ => keyHandler_ok _ d _) fun _ => ?_
  exact ite_prop NoPanic (fun _ => keyHandler_ok _ d _) fun _ => .ok

theorem handleUserEvent_ok (cfg : Cfg) (st : State) (lt : Nat) (h : WF cfg st) : Safe cfg (handleUserEvent st lt) := by
  obtain ⟨he, hq, hel, hql, hoq⟩ := h
  obtain ⟨b', f, hb, hl⟩ := bufferStep_ok "site_Serf_handleUserEvent_div_1"
    "site_Serf_handleUserEvent_index_1" "site_Serf_handleUserEvent_index_2"
    st.eventBuf st.eventMin (witness st.eventClock lt) lt (hel ▸ he)
  unfold handleUserEvent
  simp only [hb]
  exact ⟨.ok, he, hq, hl.trans hel, hql, hoq⟩

theorem handleQuery_ok (cfg : Cfg) (d : Dec) (st : State) (q : Query) (h : WF cfg st) : Safe cfg (handleQuery d st q) := by
  obtain ⟨he, hq, hel, hql, hoq⟩ := h
  obtain ⟨b', f, hb, hl⟩ := bufferStep_ok "site_Serf_handleQuery_div_1"
    "site_Serf_handleQuery_index_1" "site_Serf_handleQuery_index_2"
    st.queryBuf st.queryMin (witness st.queryClock q.ltime) q.ltime (hql ▸ hq)
  unfold handleQuery
  simp only [hb]
  cases f with
  | false => exact ⟨.ok, he, hq, hel, hql, hoq⟩
  | true =>
    obtain ⟨b, hsp⟩ := shouldProcess_ok d q.filters
    have wf' : WF cfg { st with queryBuf := b', queryClock := witness st.queryClock q.ltime } :=
      ⟨he, hq, hel, hl.trans hql, hoq⟩
    simp only [hsp]
    cases b with
    | false => exact ⟨.ok, wf'⟩
    | true =>
      cases hiq : internalQuery d q with
      | panic s => exact absurd hiq (internalQuery_ok d q s)
      | ok r => exact ⟨.ok, wf'⟩
      | ignored w => exact ⟨.ok, wf'⟩

/-- sendAck: the generated obligations, read over the 0/1 encoding of the flags, say that a channel of a
query that is not closed has not been closed, and that the ack map exists where the ack channel does. -/
theorem sendAck_ok (q : OpenQuery) (sc : Sched) (h : q.WF) : NoPanic (sendAck q sc) := by
  have hsend := (site! site_QueryResponse_sendAck_send_1) q.closed.toNat q.chClosed.toNat
  have hmap := (site! site_QueryResponse_sendAck_mapwrite_1) q.ackCh.toNat q.acksMap.toNat
  simp only [Bool.toNat_eq_one, Nat.pos_iff_ne_zero, ne_eq, Bool.toNat_eq_zero, Bool.not_eq_false] at hsend hmap
  obtain ⟨hacks, _, hclosed⟩ := h
  unfold sendAck
  refine ite_prop NoPanic (fun _ => .ignored) fun hc => ?_
  refine ite_prop NoPanic (fun ha => ?_) fun _ => .ignored
  rw [if_neg (hsend hc hclosed), if_pos (hmap (by simp at ha; exact ha.1) hacks)]
  exact .ok

theorem sendResponse_ok (q : OpenQuery) (sc : Sched) (h : q.WF) : NoPanic (sendResponse q sc) := by
  have hsend := (site! site_QueryResponse_sendResponse_send_1) q.closed.toNat q.chClosed.toNat
  have hmap := (site! site_QueryResponse_sendResponse_mapwrite_1) q.responsesMap.toNat
  simp only [Bool.toNat_eq_one, Nat.pos_iff_ne_zero, ne_eq, Bool.toNat_eq_zero, Bool.not_eq_false] at hsend hmap
  obtain ⟨_, hresps, hclosed⟩ := h
  unfold sendResponse
  refine ite_prop NoPanic (fun _ => .ignored) fun hc => ?_
  refine ite_prop NoPanic (fun _ => ?_) fun _ => .ignored
  rw [if_neg (hsend hc hclosed), if_pos (hmap hresps)]
  exact .ok

theorem handleQueryResponse_ok (cfg : Cfg) (st : State) (r : Response) (sc : Sched) (h : WF cfg st) :
    NoPanic (handleQueryResponse st r sc) := by
  unfold handleQueryResponse
  cases hf : st.openQueries.find? (fun q => q.ltime == r.ltime) with
  | none => exact .ignored
  | some q =>
    obtain ⟨_, _, _, _, hoq⟩ := h
    have hq : q.WF := hoq q (List.mem_of_find?_eq_some hf)
    refine ite_prop NoPanic (fun _ => .ignored) fun _ => ?_
    refine ite_prop NoPanic (fun _ => .ignored) fun _ => ?_
    exact ite_prop NoPanic (fun _ => sendAck_ok q sc hq) fun _ => sendResponse_ok q sc hq

/-- **C09, NotifyMsg.** For every byte string delivered to `NotifyMsg`, every decode oracle, every
scheduling of the reply channel and every state satisfying the configuration preconditions, the
handler returns without panicking and leaves a well-formed state. -/
theorem C09_NotifyMsg_never_panics (cfg : Cfg) (d : Dec) (st : State) (buf : List Nat) (sc : Sched) (h : WF cfg st) :
    (∀ s, (notifyMsg d st buf sc).2 ≠ .panic s) ∧ WF cfg (notifyMsg d st buf sc).1 := by
  have ign : ∀ w, Safe cfg (st, .ignored w) := fun w => ⟨.ignored, h⟩
  have okk : ∀ b, Safe cfg (st, .ok b) := fun b => ⟨.ok, h⟩
  unfold notifyMsg
  refine ite_prop (Safe cfg) (fun _ => ign _) fun h0 => ?_
  obtain ⟨t, ht, hs⟩ := first_byte ((site! site_delegate_NotifyMsg_index_1) buf.length h0)
    ((site! site_delegate_NotifyMsg_slice_1) buf.length h0)
  simp only [ht, hs]
  repeat' refine ite_prop (Safe cfg) (fun _ => ?_) fun _ => ?_
  · cases d.leave (buf.drop 1) with
    | none => exact ign _
    | some _ => exact okk _
  · cases d.join (buf.drop 1) with
    | none => exact ign _
    | some _ => exact okk _
  · cases d.userEvent (buf.drop 1) with
    | none => exact ign _
    | some lt => exact handleUserEvent_ok cfg st lt h
  · cases d.query (buf.drop 1) with
    | none => exact ign _
    | some q => exact handleQuery_ok cfg d st q h
  · cases d.queryResponse (buf.drop 1) with
    | none => exact ign _
    | some r => exact ⟨handleQueryResponse_ok cfg st r sc h, h⟩
  · cases d.relayHeader (buf.drop 1) with
    | none => exact ign _
    | some _ => exact okk _
  · exact ign _

theorem mergeEvents_ok (cfg : Cfg) : ∀ (evs : List (Option (Nat × Nat))) (st : State), WF cfg st →
    Safe cfg (mergeEvents st evs) := by
  intro evs
  induction evs with
  | nil => exact fun st h => ⟨.ok, h⟩
  | cons e rest ih =>
    intro st h
    cases e with
    | none => exact ih st h   -- a nil slot is skipped, never dereferenced
    | some p =>
      have hu := handleUserEvent_ok cfg st p.1 h
      unfold mergeEvents
      cases hr : handleUserEvent st p.1 with
      | mk st' o =>
        rw [hr] at hu
        cases o with
        | panic s => exact absurd rfl (hu.1 s)
        | ok r => exact ih st' hu.2
        | ignored w => exact ih st' hu.2

/-- **C09, MergeRemoteState.** The same for every byte string delivered as a push/pull state. -/
theorem C09_MergeRemoteState_never_panics (cfg : Cfg) (d : Dec) (st : State) (buf : List Nat) (h : WF cfg st) :
    (∀ s, (mergeRemoteState d st buf).2 ≠ .panic s) ∧ WF cfg (mergeRemoteState d st buf).1 := by
  have ign : ∀ w, Safe cfg (st, .ignored w) := fun w => ⟨.ignored, h⟩
  unfold mergeRemoteState
  refine ite_prop (Safe cfg) (fun _ => ign _) fun h0 => ?_
  obtain ⟨t, ht, hs⟩ := first_byte ((site! site_delegate_MergeRemoteState_index_1) buf.length h0)
    ((site! site_delegate_MergeRemoteState_slice_1) buf.length h0)
  simp only [ht, hs]
  refine ite_prop (Safe cfg) (fun _ => ign _) fun _ => ?_
  cases d.pushPull (buf.drop 1) with
  | none => exact ign _
  | some pp => exact mergeEvents_ok cfg pp.events st h

theorem pingComplete_ok (cfg : Cfg) (d : Dec) (p : List Nat) : NoPanic (pingComplete cfg d p) := by
  unfold pingComplete
  refine ite_prop NoPanic (fun _ => .ignored) fun h0 => ?_
  obtain ⟨v, hv, hs⟩ := first_byte ((site! site_pingDelegate_NotifyPingComplete_index_1) p.length h0)
    ((site! site_pingDelegate_NotifyPingComplete_slice_1) p.length h0)
  simp only [hv, hs]
  refine ite_prop NoPanic (fun _ => .ignored) fun _ => ?_
  cases d.coordinate (p.drop 1) with
  | none => exact .ignored
  | some n => exact ite_prop NoPanic (fun _ => .ignored) fun _ => .ok

/-- `hidx`, `hslice`: the caller's index and slice obligations; the slice one comes under the negated short-circuit
condition `len(p) < 1 || p[0] != typ` -/
theorem typedReply_ok (si ss : String) (typ : Nat) (dec : List Nat → Option Unit) (p : List Nat)
    (hidx : ¬ p.length < 1 → 0 < p.length) (hslice : ∀ t, ¬ (p.length < 1 ∨ t ≠ typ) → 1 ≤ p.length ∧ p.length ≤ p.length) :
    NoPanic (typedReply si ss typ dec p) := by
  unfold typedReply
  refine ite_prop NoPanic (fun _ => .ignored) fun h0 => ?_
  rw [List.getElem?_eq_getElem (hidx h0)]
  refine ite_prop NoPanic (fun _ => .ignored) fun htt => ?_
  simp only [slice1_ok (hslice _ (fun h => h.elim h0 htt)).1]
  cases dec (p.drop 1) with
  | none => exact .ignored
  | some _ => exact .ok

theorem decodeTags_ok (d : Dec) (b : List Nat) : NoPanic (decodeTags d b) := by
  unfold decodeTags
  refine ite_prop NoPanic (fun _ => .ok) fun h0 => ?_
  rw [List.getElem?_eq_getElem ((site! site_Serf_decodeTags_index_1) b.length h0)]
  refine ite_prop NoPanic (fun _ => .ok) fun hm => ?_
  simp only [slice1_ok ((site! site_Serf_decodeTags_slice_1) b.length _ (fun h => h.elim h0 hm)).1]
  cases d.tags (b.drop 1) with
  | none => exact .ignored
  | some _ => exact .ok

/-- **C09, probe acks, member metadata, replies.** Every probe-ack payload, every metadata blob and every
reply payload routed to the name-conflict vote or to a key command is processed without panicking. -/
theorem C09_payload_handlers_never_panic (cfg : Cfg) (d : Dec) (p : List Nat) :
    (∀ s, pingComplete cfg d p ≠ .panic s) ∧ (∀ s, decodeTags d p ≠ .panic s) ∧
    (∀ s, conflictReply d p ≠ .panic s) ∧ (∀ s, keyReply d p ≠ .panic s) :=
  ⟨pingComplete_ok cfg d p, decodeTags_ok d p,
    typedReply_ok _ _ 6 d.member p ((site! site_Serf_resolveNodeConflict_index_1) p.length)
      ((site! site_Serf_resolveNodeConflict_slice_1) p.length),
    typedReply_ok _ _ 8 d.keyResponse p ((site! site_KeyManager_streamKeyResp_index_1) p.length)
      ((site! site_KeyManager_streamKeyResp_slice_1) p.length)⟩

/-- **C09, malformed input is ignored.** A gossip message or state-sync payload that does not decode
(the oracle rejects it) changes nothing and is reported as ignored — whatever its bytes. -/
theorem C09_undecodable_input_is_ignored (st : State) (buf : List Nat) (sc : Sched) :
    (∃ why, notifyMsg rejectAll st buf sc = (st, .ignored why)) ∧ (∃ why, mergeRemoteState rejectAll st buf = (st, .ignored why)) := by
  have fb : ¬ buf.length = 0 → ∃ t, buf[0]? = some t ∧ ∀ site, slice1 site buf = .val (buf.drop 1) :=
    fun h0 => first_byte (by omega) (by omega)
  let P := fun r : State × Outcome => ∃ why, r = (st, .ignored why)
  constructor
  · unfold notifyMsg
    refine ite_prop P (fun _ => ⟨_, rfl⟩) fun h0 => ?_
    obtain ⟨t, ht, hs⟩ := fb h0
    simp only [ht, hs, rejectAll]
    repeat' refine ite_prop P (fun _ => ?_) fun _ => ?_
    all_goals exact ⟨_, rfl⟩
  · unfold mergeRemoteState
    refine ite_prop P (fun _ => ⟨_, rfl⟩) fun h0 => ?_
    obtain ⟨t, ht, hs⟩ := fb h0
    simp only [ht, hs, rejectAll]
    exact ite_prop P (fun _ => ⟨_, rfl⟩) fun _ => ⟨_, rfl⟩

example : ∃ why, notifyMsg rejectAll initState [4, 0xc1] {} = (initState, .ignored why) :=
  (C09_undecodable_input_is_ignored initState [4, 0xc1] {}).1

theorem C09_handle_never_panics (cfg : Cfg) (d : Dec) (st : State) (inp : Input) (h : WF cfg st) :
    (∀ s, (handle cfg d st inp).2 ≠ .panic s) ∧ WF cfg (handle cfg d st inp).1 := by
  have hp := C09_payload_handlers_never_panic cfg d
  cases inp with
  | msg b sc => exact C09_NotifyMsg_never_panics cfg d st b sc h
  | merge b => exact C09_MergeRemoteState_never_panics cfg d st b h
  | ping p => exact ⟨(hp p).1, h⟩
  | metadata b => exact ⟨(hp b).2.1, h⟩
  | conflictReply p => exact ⟨(hp p).2.2.1, h⟩
  | keyReply p => exact ⟨(hp p).2.2.2, h⟩

/-- … hence no sequence of network inputs, of any length, makes the node panic. -/
theorem C09_run_never_panics (cfg : Cfg) (d : Dec) : ∀ (inps : List Input) (st : State), WF cfg st →
    ∀ s, (run cfg d st inps).2 ≠ .panic s := by
  intro inps
  induction inps with
  | nil => exact fun st _ => NoPanic.ok
  | cons i rest ih =>
    intro st h
    have hh := C09_handle_never_panics cfg d st i h
    unfold run
    cases hr : handle cfg d st i with
    | mk st' o =>
      rw [hr] at hh
      cases o with
      | panic s' => exact absurd rfl (hh.1 s')
      | ok r => exact ih st' hh.2
      | ignored w => exact ih st' hh.2

-- non-vacuity: the hypothesis is satisfiable, and the skeleton does real work on concrete inputs
example : WF defaultCfg initState := by
  refine ⟨by decide, by decide, by decide, by decide, ?_⟩
  intro q hq; simp [initState] at hq
example : (handle defaultCfg rejectAll initState (.msg [])).2 = .ignored "empty" := rfl
example : (handle defaultCfg rejectAll initState (.merge [2, 0x90])).2 = .ignored "push/pull does not decode" := rfl
/-- a decoder that accepts everything as a user event at time 7: the buffer is written -/
example : (handle defaultCfg { rejectAll with userEvent := fun _ => some 7 } initState (.msg [3, 0x80])).2 = .ok true := by decide

/-- the generated sites of a function, restricted to the given kinds -/
def genSitesOf (fn : String) (kinds : List String) : List String :=
  match sitesByFunction.find? (fun p => p.1 == fn) with
  | none => []
  | some p => (p.2.filter (fun sk => kinds.contains sk.2)).map (·.1)

/-- Every index/slice/modulo/map-write/send site the extractor lists for a modelled function is a
`.panic` site of the skeleton (or one of the listed trivially-safe ones), and every modelled function
is still present in the inventory.  A new site in these functions breaks this check. -/
theorem C09_skeleton_covers_generated_sites :
    (modelled.all fun fk =>
      (sitesByFunction.any fun p => p.1 == fk.1) &&
      (genSitesOf fk.1 fk.2).all fun s => coveredSites.contains s || triviallySafe.contains s) = true := by
  -- the names are compared through their numeric codes (Lemmas/StrCode.lean), then the search is evaluated
  simp only [genSitesOf, contains_code, beq_code]
  decide +kernel

/-- conversely every `.panic` site of the skeleton is a generated (and therefore proved) site -/
theorem C09_skeleton_sites_are_generated : (coveredSites.all fun s => siteNames.contains s) = true := by
  simp only [contains_code]
  decide +kernel

/-- The buffer-size precondition is necessary: a node configured with `EventBuffer = 0` that receives a
user event at Lamport time 2^64-1 divides by zero — `Witness` wraps the clock to 0, so the "too old"
test does not fire (replayed on the real code by the harness case `zerobuf`). -/
theorem C09_buffer_precondition_necessary :
    (handleUserEvent { eventBuf := [], queryBuf := [] } (twoPow64 - 1)).2 =
      .panic "site_Serf_handleUserEvent_div_1" ∧
    (handleQuery rejectAll { eventBuf := [], queryBuf := [] }
        { ltime := twoPow64 - 1, id := 0, name := [], payload := [], filters := [], ack := false, noBroadcast := false }).2 =
      .panic "site_Serf_handleQuery_div_1" :=
  ⟨rfl, rfl⟩

/-- … and, for `handleUserEvent`, it is needed only there: below the top of the clock the witnessed time is always
later than the message, so an empty buffer makes every message "too old" and the modulo is never reached. -/
theorem C09_zero_buffer_harmless_below_max (st : State) (lt : Nat) (hb : st.eventBuf = []) (hlt : lt + 1 < twoPow64) :
    ∀ s, (handleUserEvent st lt).2 ≠ .panic s := by
  intro s
  have hw : lt < witness st.eventClock lt := by
    unfold witness
    split
    · assumption
    · rw [Nat.mod_eq_of_lt hlt]; omega
  unfold handleUserEvent bufferStep
  simp only [hb, List.length_nil]
  by_cases h1 : lt < st.eventMin
  · simp [h1]
  · simp [h1, hw, Nat.zero_lt_of_lt hw]

example : (5 : Nat) + 1 < twoPow64 := by decide

/-- regression witnesses for the two length guards of serf's repairs ab39b52 and b6019e3: what the guarded expressions are on
the empty input the guards exclude — `filter[0]` has no value, `Payload[1:]` is the skeleton's panic outcome.  Facts about
`[]` only: the skeleton has no variant without the guards. -/
theorem C09_empty_filter_unguarded_witness : ([] : List Nat)[0]? = none := rfl
theorem C09_empty_payload_unguarded_witness : slice1 "site" [] = .panic "site" := rfl

/-- without the open-query invariant (ack channel made ⇒ ack map made) the skeleton's map-write site
is reachable: the shape of the seeded defect that records the sender before the select. -/
theorem C09_ack_invariant_necessary :
    sendAck { ltime := 1, id := 1, ackCh := true, acksMap := false } {} = .panic "site_QueryResponse_sendAck_mapwrite_1" :=
  rfl

end SerfProofs.C09
