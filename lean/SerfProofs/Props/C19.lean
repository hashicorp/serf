/-
C19 — Lamport clocks never go backwards and witnessing moves them past the value.

The theorems are about the programs *regenerated from serf/lamport.go*
(`SerfModel.Gen.Lamport`), under the interleaving semantics of
`SerfModel.Model.Atomic`: any number of threads, any number of calls per thread,
every schedule.  `NoOverflow` excludes exactly the steps that wrap the 64-bit
counter (an increment at 2^64−1, a witness of 2^64−1); what happens there is the
recorded finding `C19_witness_max_wraps`.
-/
import SerfProofs.Lemmas.Lamport
namespace SerfProofs.C19
open SerfModel.Atomic SerfModel.Gen SerfProofs.Lamport

/-- Counter value after the first `k` steps of a schedule. -/
def counterAt (s : Sys) (sched : List Nat) (k : Nat) : W := (run P s (sched.take k)).counter

/-- **Never backwards.** For every initial value, every set of threads with any
calls, every schedule without an overflowing step: the counter after `i` steps is
at most the counter after `j ≥ i` steps. -/
theorem C19_monotone (c : W) (calls : List (List Call)) (sched : List Nat)
    (hno : NoOverflow P (Sys.init c calls) sched) (i j : Nat) (hij : i ≤ j) :
    counterAt (Sys.init c calls) sched i ≤ counterAt (Sys.init c calls) sched j := by
  -- the first `j` steps are the first `i` steps followed by `k = j - i` more
  obtain ⟨k, rfl⟩ := Nat.exists_eq_add_of_le hij
  rw [← List.take_append_drop (i + k) sched, List.take_add] at hno
  obtain ⟨hi, hk⟩ := (noOverflow_append P _ _ _).1 ((noOverflow_append P _ _ _).1 hno).1
  unfold counterAt
  rw [List.take_add, run_append]
  exact (run_inv _ _ (run_inv _ _ (SysInv.init c calls) hi).2.1 hk).1

/-- **Every increment returns a distinct value**, under every interleaving. -/
theorem C19_increments_distinct (c : W) (calls : List (List Call)) (sched : List Nat)
    (hno : NoOverflow P (Sys.init c calls) sched) :
    (run P (Sys.init c calls) sched).incs.Nodup :=
  (run_inv sched _ (SysInv.init c calls) hno).2.1.nodup

/-- **After witnessing `v` the clock is strictly greater than `v`** — at the moment
the call returns and at every later point of every schedule. -/
theorem C19_witness_post (c : W) (calls : List (List Call)) (s1 s2 : List Nat)
    (hno : NoOverflow P (Sys.init c calls) (s1 ++ s2)) (t : Nat) (th : Thread) (v : W)
    (hth : (run P (Sys.init c calls) s1).threads[t]? = some th)
    (hdone : ⟨.witness v, none⟩ ∈ th.done) :
    v < (run P (Sys.init c calls) (s1 ++ s2)).counter := by
  obtain ⟨hno1, hno2⟩ := (noOverflow_append P s1 s2 _).1 hno
  have h1 := run_inv s1 _ (SysInv.init c calls) hno1
  have hd : v < (run P (Sys.init c calls) s1).counter := (h1.2.1.threads th (List.mem_of_getElem? hth)).2 _ hdone
  rw [run_append]
  exact Nat.lt_of_lt_of_le hd (run_inv s2 _ h1.2.1 hno2).1

/-- A value returned by `Time()` or `Increment()` never exceeds the counter. -/
theorem C19_reads_below (c : W) (calls : List (List Call)) (sched : List Nat)
    (hno : NoOverflow P (Sys.init c calls) sched) (th : Thread)
    (hth : th ∈ (run P (Sys.init c calls) sched).threads) (d : Done) (hd : d ∈ th.done) (r : W)
    (hcall : d.call = .time ∨ d.call = .increment) (hr : d.result = some r) :
    r ≤ (run P (Sys.init c calls) sched).counter := by
  have h := ((run_inv sched _ (SysInv.init c calls) hno).2.1.threads th hth).2 d hd
  unfold DoneInv at h
  rcases hcall with h' | h' <;> simp only [h'] at h <;> exact h r hr

/-- The clock after `Witness(v)` run alone. -/
def witnessSeq (cur v : W) : W := (runSeq P cur (.witness v)).1

theorem witnessSeq_toNat (cur v : W) (hv : v ≠ BitVec.allOnes 64) :
    (witnessSeq cur v).toNat = max cur.toNat (v.toNat + 1) := runSeq_witness_toNat cur v hv

/-- **Sequential contract for all 64-bit values but the last.** -/
theorem C19_witness_seq (cur v : W) (hv : v ≠ BitVec.allOnes 64) :
    v < witnessSeq cur v ∧ cur ≤ witnessSeq cur v := by
  have := witnessSeq_toNat cur v hv
  exact ⟨BitVec.lt_def.2 (by omega), BitVec.le_def.2 (by omega)⟩

/-- Sequential `Increment` returns the successor and `Time` the value itself. -/
theorem C19_increment_seq (cur : W) : runSeq P cur .increment = (cur + 1#64, some (cur + 1#64)) := by
  simp [runSeq, Sys.init, run, step, stepThread, P, Lamport.progs, Progs.of, gen_increment,
    execInstr, Frame.set, Frame.get]

theorem C19_time_seq (cur : W) : runSeq P cur .time = (cur, some cur) := by
  simp [runSeq, Sys.init, run, step, stepThread, P, Lamport.progs, Progs.of, gen_time,
    execInstr, Frame.set, Frame.get]

/-! ### Sequential algebra of `Witness` (the clock as a join: order-independent, idempotent) -/

/-- one more than the largest witnessed value (0 for none), as a natural number -/
def supSucc : List W → Nat
  | [] => 0
  | v :: vs => max (v.toNat + 1) (supSucc vs)

/-- **Closed form for any sequence of witnesses**: after witnessing `vs` (none of them 2^64−1) in
this order the clock is the maximum of its old value and every witnessed value plus one. -/
theorem C19_witness_all (cur : W) (vs : List W) (h : ∀ v ∈ vs, v ≠ BitVec.allOnes 64) :
    (vs.foldl witnessSeq cur).toNat = max cur.toNat (supSucc vs) := by
  induction vs generalizing cur with
  | nil => exact (Nat.max_eq_left (Nat.zero_le _)).symm
  | cons v vs ih =>
    obtain ⟨hv, hvs⟩ := List.forall_mem_cons.1 h
    rw [List.foldl_cons, ih _ hvs, witnessSeq_toNat cur v hv, supSucc, Nat.max_assoc]

theorem supSucc_perm {vs ws : List W} (p : vs.Perm ws) : supSucc vs = supSucc ws := by
  induction p with
  | nil => rfl
  | cons x _ ih => simp only [supSucc, ih]
  | swap x y l => simp only [supSucc, Nat.max_left_comm]
  | trans _ _ ih1 ih2 => exact ih1.trans ih2

/-- **Order independence**: witnessing the same values in any order leaves the same clock. -/
theorem C19_witness_order_independent (cur : W) (vs ws : List W) (p : vs.Perm ws)
    (h : ∀ v ∈ vs, v ≠ BitVec.allOnes 64) : vs.foldl witnessSeq cur = ws.foldl witnessSeq cur := by
  apply BitVec.eq_of_toNat_eq
  rw [C19_witness_all cur vs h, C19_witness_all cur ws (fun v hv => h v (p.mem_iff.mpr hv)), supSucc_perm p]

theorem le_supSucc (vs : List W) : ∀ v ∈ vs, v.toNat + 1 ≤ supSucc vs := by
  induction vs with
  | nil => nofun
  | cons w ws ih => exact List.forall_mem_cons.2 ⟨Nat.le_max_left .., fun v hv => Nat.le_trans (ih v hv) (Nat.le_max_right ..)⟩

/-- **Every witnessed value is strictly below the final clock, and the clock did not go back.** -/
theorem C19_witness_all_above (cur : W) (vs : List W) (h : ∀ v ∈ vs, v ≠ BitVec.allOnes 64) :
    cur ≤ vs.foldl witnessSeq cur ∧ ∀ v ∈ vs, v < vs.foldl witnessSeq cur := by
  have hc := C19_witness_all cur vs h
  constructor
  · rw [BitVec.le_def]; omega
  · intro v hv; have := le_supSucc vs v hv; rw [BitVec.lt_def]; omega

/-- **Idempotence**: witnessing a value a second time changes nothing. -/
theorem C19_witness_idempotent (cur v : W) (hv : v ≠ BitVec.allOnes 64) :
    witnessSeq (witnessSeq cur v) v = witnessSeq cur v := by
  apply BitVec.eq_of_toNat_eq
  rw [witnessSeq_toNat _ v hv, witnessSeq_toNat cur v hv]; omega

example : [9#64, 3#64, 7#64].foldl witnessSeq 5#64 = 10#64 ∧ [7#64, 9#64, 3#64].foldl witnessSeq 5#64 = 10#64 := by decide +kernel

/-- **Negation witness (recorded finding).** Witnessing 2^64−1 wraps the clock to 0:
it moves backwards, and no 64-bit clock can be strictly greater than that value. -/
theorem C19_witness_max_wraps : witnessSeq 42#64 (BitVec.allOnes 64) = 0#64 := by decide +kernel

-- Non-vacuity: a two-thread run with a CAS failure satisfies `NoOverflow`.
example : NoOverflow P (Sys.init 5#64 [[.witness 9#64, .increment], [.witness 7#64, .time]])
    [0, 1, 0, 1, 0, 1, 0, 1, 0, 1, 1, 1, 1, 0, 0, 0, 1, 1, 1] := by decide +kernel
example : (run P (Sys.init 5#64 [[.witness 9#64, .increment], [.witness 7#64, .time]])
    [0, 1, 0, 1, 0, 1, 0, 1, 0, 1, 1, 1, 1, 0, 0, 0, 1, 1, 1]).counter = 11#64 := by decide +kernel

end SerfProofs.C19
