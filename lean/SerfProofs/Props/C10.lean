/-
C10 — Restart from a snapshot restores the rejoin set and clocks exactly.

Model: `SerfModel.Snapshot` (serf/snapshot.go): line printer, `replay` parser, the
snapshotter's state, append / periodic flush / compaction with the file-system
operations they issue, a `bufio.Writer` model and a model file system.

`C10_restore_exact_partial` is the property: for every history without a graceful leave,
every compaction threshold, every flush timing and every order the Go map iteration
may produce in `compact`, the state a restart recovers from the file the life left
behind is exactly the in-memory state at shutdown.  It is partial in its hypothesis `WFEv`
(member names without newline; addresses without space/newline — true of every
`net.TCPAddr.String()`; uint64 event times): for names the hypothesis is necessary, the
statement fails exactly for names containing '\n' (`C10_restore_exact_counterexample`,
finding `name-with-newline`).
-/
import SerfProofs.Lemmas.SnapshotCrash
namespace SerfProofs.C10
open SerfModel SerfModel.Snapshot SerfProofs.Snapshot

/-- **Line print/parse round trip**: every line the snapshotter writes is read back
as itself by `replay`, provided the member name has no newline, the address has no
space and no newline (true of every `net.TCPAddr.String()`), and times are uint64. -/
theorem C10_line_roundtrip (l : Line) (h : WFLine l) : parseLine (printBody l) = some l :=
  parseLine_printBody l h

example : WFLine (.alive ['n', ' ', 'c', ':', ' ', '#'] ['[', ':', ':', '1', ']', ':', '7']) := by decide

/-- **Replay of printed lines is the fold of their effects.** -/
theorem C10_replay_is_fold (rj : Bool) (ls : List Line) (hls : ∀ l ∈ ls, WFLine l) :
    replay rj (ls.flatMap printLine) = ls.foldl (applyLine rj) {} := by
  have := replay_fold_from rj ls hls [] rfl
  simpa [replay, splitLines] using this

example : ∀ l ∈ [Line.alive ['a', ' ', 'b'] ['1', ':', '2'], .clock 7, .notAlive ['a', ' ', 'b'], .leave], WFLine l := by decide

/-- **Appending a line preserves "replay(file ++ buffered) = memory"**: if the disk
holds `d`, the writer buffers `s.buf`, the state `s` is well formed and replaying
`d ++ s.buf` followed by the new line gives `s`'s memory, then after `appendLine` —
whatever it does: buffer, write through a full 4096-byte buffer, periodic flush,
compaction (any threshold `s.minCompact`, any map order) — replaying the new file
plus the new buffer gives the same memory. -/
theorem C10_append_preserves_partial (ord : Order) (hord : PermOrder ord) (s : Snap) (fs : FS) (d : Bytes) (ln : Line)
    (hd : fs.main = some d) (hnl : endsNL (d ++ s.buf) = true) (hwf : WFRec s.mem) (hln : WFLine ln)
    (hA : MapEq (applyLine s.rejoin (replay s.rejoin (d ++ s.buf)) ln).alive s.mem.alive)
    (hC : Judged s → ClocksEq (applyLine s.rejoin (replay s.rejoin (d ++ s.buf)) ln) s.mem) :
    Inv (appendLine ord s (printLine ln)).1 (fs.applyAll (appendLine ord s (printLine ln)).2) ∧
      SameMem s (appendLine ord s (printLine ln)).1 :=
  ⟨appendLine_line_inv ord hord s fs d ln hd hnl hwf hln hA hC, appendLine_same ord s _⟩

/-- **A compaction restores exactly**: from ANY well-formed in-memory state and any
previous file content, after `compact` the snapshot file replays to exactly the
in-memory alive map (as a map) and clocks, for every permutation the map iteration
may produce. -/
theorem C10_compact_restores_partial (ord : Order) (hord : PermOrder ord) (s : Snap) (fs : FS) (d : Bytes)
    (hd : fs.main = some d) (hwf : WFRec s.mem) :
    Inv (compact ord s).1 (fs.applyAll (compact ord s).2) ∧ SameMem s (compact ord s).1 :=
  ⟨compact_inv ord hord s fs hwf, compact_same ord s⟩

/-- **Flushing preserves the invariant** (leave and shutdown flush, then sync/close). -/
theorem C10_flush_preserves_partial (s : Snap) (fs : FS) (h : Inv s fs) (tail : List FsOp)
    (htail : ∀ g : FS, g.applyAll tail = g) :
    Inv { s with buf := [] } (fs.applyAll (flushOps .main s.buf ++ tail)) :=
  flush_inv s fs h tail htail

/-- non-vacuity: the fresh snapshotter satisfies the invariant -/
example : Inv (Snap.init false 0).1 (({} : FS).applyAll (Snap.init false 0).2) :=
  init_inv false 0

/-- **C10, whole histories** (partial only in `WFEv`: names without newline). A fresh
snapshotter (`rj` = rejoin-after-leave, `mc` = minimum compaction size) lives through
`evs` (no leave), shuts down with the Lamport clock at `clk`; the restart then
recovers exactly the alive map (as a map: same address for every name, no duplicates)
and exactly the three clocks the node had in memory. -/
theorem C10_restore_exact_partial (ord : Order) (hord : PermOrder ord) (rj : Bool) (mc : Nat) (evs : List Ev) (clk : Nat)
    (hwf : ∀ e ∈ evs, WFEv e) (hnl : Ev.leave ∉ evs) :
    MapEq (recover rj (FS.applyAll {} (life ord rj mc {} evs clk).2)).alive (life ord rj mc {} evs clk).1.alive ∧
    (akeys (life ord rj mc {} evs clk).1.alive).Nodup ∧
    (recover rj (FS.applyAll {} (life ord rj mc {} evs clk).2)).clock = (life ord rj mc {} evs clk).1.lastClock ∧
    (recover rj (FS.applyAll {} (life ord rj mc {} evs clk).2)).eventClock = (life ord rj mc {} evs clk).1.lastEventClock ∧
    (recover rj (FS.applyAll {} (life ord rj mc {} evs clk).2)).queryClock = (life ord rj mc {} evs clk).1.lastQueryClock := by
  obtain ⟨hrec, hw⟩ := restore_generic ord hord (Snap.init rj mc).1 _ (init_inv rj mc) (init_leaving rj mc) evs clk hwf hnl
  rw [init_rejoin] at hrec
  rw [life_fresh_fs, life_fresh_fst]
  exact hrec.fields hw

/-- non-vacuity: a history with unusual names satisfies the hypotheses -/
example : (∀ e ∈ [Ev.join [(['a', ' ', 'b', ':'], ['1', ':', '2'])] 5, .user 7, .gone [['#']] 9, .timePasses, .forceCompact], WFEv e) ∧
    Ev.leave ∉ [Ev.join [(['a', ' ', 'b', ':'], ['1', ':', '2'])] 5, .user 7, .gone [['#']] 9, .timePasses, .forceCompact] := by
  decide

example : PermOrder Order.id := fun _ m => List.Perm.refl m

/-- **A stale compaction temp file never matters after a whole life**: for every life (any events, any
threshold, any map order), whatever a failed compaction left in `<path>.compact` (`t`), the restart recovers
exactly what it recovers without that file — the snapshot file always exists at shutdown, and the start-up
recovery only looks at the temp file when the snapshot is missing. With `C10_restore_exact_partial` this gives
exact restoration in the presence of such a file. -/
theorem C10_stale_tmp_ignored (ord : Order) (hord : PermOrder ord) (rj : Bool) (mc : Nat) (evs : List Ev) (clk : Nat)
    (hwf : ∀ e ∈ evs, WFEv e) (t : Option Bytes) :
    recover rj { FS.applyAll {} (life ord rj mc {} evs clk).2 with tmp := t } =
      recover rj (FS.applyAll {} (life ord rj mc {} evs clk).2) := by
  obtain ⟨d, hmain⟩ := life_fresh_main ord rj mc evs clk
  simp [recover, hmain]

/-- the one-event life of the finding: join of a member named "a\nb", shutdown -/
def cexLife : Snap × List FsOp :=
  life Order.id false 131072 {} [.join [(['a', '\n', 'b'], ['1', ':', '2'])] 1] 1

/-- **Finding `name-with-newline`** (confirmed on the real Snapshotter): a member
whose name contains a newline is in memory but is not recovered by a restart. -/
theorem C10_restore_exact_counterexample :
    cexLife.1.alive = [(['a', '\n', 'b'], ['1', ':', '2'])] ∧
    (recover false (FS.applyAll {} cexLife.2)).alive = [] := by decide +kernel

end SerfProofs.C10
