/-
C33 — Nothing larger than the configured limits is ever sent.

Statement (properties.jsonl): a user event is accepted only if its name plus payload and
its encoded form are within both the configured limit and the hard 9 KB limit, and a
rejected event is neither delivered locally nor broadcast.  A query is sent only if its
encoded form is within the query size limit, and a query response is sent only if it is
within the response size limit.

The theorems are about the statement lists regenerated from the source on every run
(`SerfModel.Gen.Limits`, extract/limits.go): guards with their operands, in order, and
the position of every Lamport-clock step and of every observable effect (local delivery,
broadcast queue, registration, SendToAddress, relay).  The event / query takes its Lamport
time with one atomic `Increment` while the message is built (serf's repair 02f6c98 for C06), i.e.
BEFORE the encoded-size guards: a rejected-after-encoding event advances the node's own
clock.  That is a clock step, not one of the effects the property forbids ("neither
delivered locally nor broadcast"); the theorems list it explicitly.  They hold for ALL names, payloads and limits.
Encoded lengths are those of the msgpack/codec model (exact; C32 ties it byte-for-byte).
-/
import SerfModel.Model.Limits
namespace SerfProofs.C33
open SerfModel.LimitSteps SerfModel.Limits SerfModel.Gen.Limits SerfModel.Msgpack SerfModel.Codec

/-! #### what the generated code looks like (decided on the regenerated definitions)

The extractor alpha-normalises (receiver, parameters, locals, constants, helper calls), so
these obligations pin MEANING: which quantity is compared with which limit, in which order,
relative to which clock steps, tests and observable effects.

An equation whose two sides compute to the same value is proved by `rfl`: the kernel compares the string
literals as they stand, where `decide` would run `String.decEq` over the call texts (hundreds of characters,
converted to UTF-8 byte lists first).  `decide +kernel` where strings are appended or tested for equality. -/

/-- the four guards of UserEvent, in order: len(name)+len(payload) (parameters 0 and 1) and the
encoded message, each against the configured limit and against the constant 9216 -/
theorem C33_gen_event_guards :
    guardShapes userEvent =
      [(.sumLenParams [0, 1], .cfg "UserEventSizeLimit"), (.sumLenParams [0, 1], .const 9216),
       (.lenEnc "" "encodeMessage:messageUserEventType" [], .cfg "UserEventSizeLimit"),
       (.lenEnc "" "encodeMessage:messageUserEventType" [], .const 9216)] := rfl

/-- the guarded encoding is that of a message built from exactly the caller's name and payload,
and the very same encoding is what gets queued for broadcast -/
theorem C33_gen_event_encodes_inputs :
    (guardedEncs userEvent).all (fun e => fieldOf e.2.2 "Name" = some "p0" && fieldOf e.2.2 "Payload" = some "p1") = true
    ∧ effectArgs "QueueBroadcast" userEvent = ((guardedEncs userEvent).take 1).map (fun e => [Arg.enc e.1 e.2.1]) :=
  ⟨by decide +kernel, rfl⟩

/-- the regenerated constant `UserEventSizeLimit`, which the checker's model applies to the configuration (`Check/C33.lean`), is
the 9216 of the guards above -/
theorem C33_gen_hard_limit : hard = 9216 := rfl

/-- order of guards, clock steps and observable effects: the only thing before the last guard
is the clock increment of message construction; every observable effect follows every guard. -/
theorem C33_gen_event_skeleton :
    skeleton userEvent =
      ["guard", "guard", "clock:eventClock.Increment", "guard", "guard", "effect:handleUserEvent", "effect:QueueBroadcast"] := by
  decide +kernel

theorem C33_gen_query_skeleton :
    skeleton query =
      ["test:recv.ProtocolVersion() < 4", "clock:queryClock.Increment", "guard", "effect:registerQueryResponse",
       "effect:handleQuery", "effect:QueueBroadcast"] := by
  decide +kernel

theorem C33_gen_query_guards :
    guardShapes query = [(.lenEnc "" "encodeMessage:messageQueryType" [], .cfg "QuerySizeLimit")]
    ∧ effectArgs "QueueBroadcast" query = (guardedEncs query).map (fun e => [Arg.enc e.1 e.2.1]) :=
  ⟨rfl, rfl⟩

/-- in every size-limited function all observable effects come after all guards / tests -/
theorem C33_gen_effects_after_gates :
    effectsAfterGates userEvent = true ∧ effectsAfterGates query = true
    ∧ effectsAfterGates respondWithMessageAndResponse = true ∧ effectsAfterGates relayResponse = true := by decide

/-- responses: Respond hands the ENCODED response (parameter 0) to respondWithMessageAndResponse, which
compares its length with the limit first, then tests "already responded" and "past the deadline",
then sends exactly that parameter, then relays; relayResponse compares the encoded relay message with
the limit and sends exactly that encoding. -/
theorem C33_gen_response_wiring :
    (effectArgs "respondWithMessageAndResponse" respond).map (fun a => a.head?.map Arg.shape)
        = [some (Arg.enc "encodeMessage:messageQueryResponseType" "")]
    ∧ skeleton respondWithMessageAndResponse =
        ["guard", "test:recv.deadline.IsZero()", "test:time.Now().After(recv.deadline)", "effect:SendToAddress", "effect:relayResponse"]
    ∧ guardShapes respondWithMessageAndResponse = [(.sumLenParams [0], .cfg "QueryResponseSizeLimit")]
    ∧ (effectArgs "SendToAddress" respondWithMessageAndResponse).map (·.getLast?) = [some (Arg.param 0)]
    ∧ skeleton relayResponse = ["guard", "effect:SendToAddress"]
    ∧ guardShapes relayResponse = [(.lenEnc "" "encodeRelayMessage:messageQueryResponseType" [], .cfg "QueryResponseSizeLimit")]
    ∧ (effectArgs "SendToAddress" relayResponse).map (·.getLast?) = (guardedEncs relayResponse).map (fun e => some (Arg.enc e.1 e.2.1)) :=
  ⟨rfl, by decide +kernel, rfl, rfl, by decide +kernel, rfl, rfl⟩

/-! #### the interpreter, for any step list

A run that passes every gate performs every clock step and effect, in order; a run stopped at a gate is
rejected, and where all effects of the list come after all its gates (`C33_gen_effects_after_gates`) it has
performed none of them. -/

section Run
variable (env : Opnd → Nat) (tf : String → Bool)

def passes : Step → Bool
  | .guard l r => env l ≤ env r
  | .test c => !tf c
  | _ => true

def evOf : Step → List Ev
  | .clock w => [.clock w]
  | .effect w _ => [.effect w]
  | _ => []

theorem run_cons (g : Step) (s : List Step) (acc : List Ev) :
    run env tf (g :: s) acc = if passes env tf g then run env tf s (evOf g ++ acc) else ⟨false, acc.reverse⟩ := by
  cases g with
  | guard l r => by_cases h : env l > env r <;> simp [run, passes, evOf, h] <;> omega
  | test c => cases h : tf c <;> simp [run, passes, evOf, h]
  | clock w => rfl
  | effect w a => rfl

theorem run_ok (s : List Step) (acc : List Ev) :
    (run env tf s acc).ok = s.all (passes env tf) := by
  induction s generalizing acc with
  | nil => rfl
  | cons g s ih => rw [run_cons]; cases h : passes env tf g <;> simp [h, ih]

theorem run_trace (s : List Step) (acc : List Ev)
    (h : (run env tf s acc).ok = true) : (run env tf s acc).trace = acc.reverse ++ s.flatMap evOf := by
  induction s generalizing acc with
  | nil => simp [run]
  | cons g s ih =>
    rw [run_cons] at h ⊢
    cases hp : passes env tf g
    · simp [hp] at h
    · simp only [hp, if_true] at h ⊢
      rw [ih _ h, List.reverse_append, List.flatMap_cons, List.append_assoc, show (evOf g).reverse = evOf g by cases g <;> rfl]

theorem passes_of_not_gate (g : Step) (h : isGate g = false) : passes env tf g = true := by
  cases g with
  | guard _ _ => cases h
  | test _ => cases h
  | clock _ => rfl
  | effect _ _ => rfl

theorem observable_snoc_clock (w : String) : ∀ a : List Ev, observable (a ++ [.clock w]) = observable a
  | [] => rfl
  | .clock _ :: a => observable_snoc_clock w a
  | .effect v :: a => congrArg (v :: ·) (observable_snoc_clock w a)

theorem run_rejected (s : List Step) (acc : List Ev)
    (hs : effectsAfterGates s = true) (h : (run env tf s acc).ok = false) :
    (run env tf s acc).effects = observable acc.reverse := by
  induction s generalizing acc with
  | nil => simp [run] at h
  | cons g s ih =>
    simp only [effectsAfterGates, Bool.and_eq_true] at hs
    rw [run_cons] at h ⊢
    cases hp : passes env tf g
    · simp [Outcome.effects]
    · simp only [hp, if_true] at h ⊢
      cases g with
      | effect w a =>
        -- no gate follows an effect, so the rest of the run passes: it was not rejected
        have hg : ∀ g ∈ s, isGate g = false := by simpa [isEffect] using hs.1
        rw [run_ok, List.all_eq_true.2 fun g hg' => passes_of_not_gate env tf g (hg g hg')] at h
        cases h
      | clock w => rw [ih _ hs.2 h, evOf, List.singleton_append, List.reverse_cons, observable_snoc_clock]
      | guard l r => exact ih _ hs.2 h
      | test c => exact ih _ hs.2 h

theorem passes_of_effects {s : List Step} (hs : effectsAfterGates s = true)
    (h : (run env tf s []).effects ≠ []) : s.all (passes env tf) = true := by
  rw [← run_ok env tf s []]
  cases hok : (run env tf s []).ok with
  | true => rfl
  | false => exact absurd (run_rejected env tf s [] hs hok) h

end Run

/-- accepted ⇔ name+payload ≤ min(cfg, 9216) ∧ encoded length ≤ min(cfg, 9216) -/
theorem C33_event (cfg : Cfg) (nameLen payloadLen encLen : Nat) :
    (userEvent cfg nameLen payloadLen encLen).ok = true ↔
      nameLen + payloadLen ≤ min cfg.ueLimit 9216 ∧ encLen ≤ min cfg.ueLimit 9216 := by
  rw [SerfModel.Limits.userEvent, run_ok]
  simp [SerfModel.Gen.Limits.userEvent, passes]
  simp [ueEnv]
  omega

/-- the same with the real encoded length of the event a node with event clock `ltime` sends -/
theorem C33_event_exact (cfg : Cfg) (ltime : Nat) (name : Bytes) (payload : Option Bytes) (cc : Bool) :
    (userEvent cfg name.length (optLen payload) (ueEncLen ltime name payload cc)).ok = true ↔
      name.length + optLen payload ≤ min cfg.ueLimit 9216 ∧ ueEncLen ltime name payload cc ≤ min cfg.ueLimit 9216 :=
  C33_event cfg _ _ _

/-- a rejected event performs NO observable effect: it is not delivered locally and nothing is
queued.  The only side effect it can have is the clock increment of message construction,
and only when it passed the two pre-encoding guards. -/
theorem C33_event_rejected_silent (cfg : Cfg) (nameLen payloadLen encLen : Nat)
    (h : (userEvent cfg nameLen payloadLen encLen).ok = false) :
    (userEvent cfg nameLen payloadLen encLen).effects = []
    ∧ ((userEvent cfg nameLen payloadLen encLen).trace = []
       ∨ (userEvent cfg nameLen payloadLen encLen).trace = [.clock "eventClock.Increment"]) := by
  refine ⟨run_rejected _ _ _ [] C33_gen_effects_after_gates.1 h, ?_⟩
  -- the trace: one case per guard at which the run stops
  revert h
  simp [SerfModel.Limits.userEvent, SerfModel.Gen.Limits.userEvent, run]
  repeat' split
  all_goals simp
example : (userEvent ⟨512, 1024, 1024⟩ 10 503 560).ok = false := by decide +kernel

/-- rejected before encoding ⇒ not even the clock moved -/
theorem C33_event_rejected_early (cfg : Cfg) (nameLen payloadLen encLen : Nat)
    (h : min cfg.ueLimit 9216 < nameLen + payloadLen) :
    userEvent cfg nameLen payloadLen encLen = ⟨false, []⟩ := by
  simp [SerfModel.Limits.userEvent, SerfModel.Gen.Limits.userEvent, run, ueEnv]
  omega
example : min 512 9216 < 10 + 503 := by decide

/-- an accepted event: clock increment (at construction), then local delivery, then the
broadcast queue — exactly these, in this order -/
theorem C33_event_accepted_effects (cfg : Cfg) (nameLen payloadLen encLen : Nat)
    (h : (userEvent cfg nameLen payloadLen encLen).ok = true) :
    (userEvent cfg nameLen payloadLen encLen).trace
      = [.clock "eventClock.Increment", .effect "handleUserEvent", .effect "QueueBroadcast"] :=
  run_trace _ _ _ _ h
example : (userEvent ⟨512, 1024, 1024⟩ 10 100 160).ok = true := by decide +kernel

/-- anything observable (registration, local delivery, broadcast) ⇒ encoded length ≤ QuerySizeLimit,
whatever the other tests (protocol version) say -/
theorem C33_query (cfg : Cfg) (encLen : Nat) (tf : String → Bool) (h : (queryT cfg encLen tf).effects ≠ []) :
    encLen ≤ cfg.qLimit := by
  have := passes_of_effects _ _ C33_gen_effects_after_gates.2.1 h
  simp [SerfModel.Gen.Limits.query, passes, qEnv] at this
  exact this.2
example : (queryT ⟨512, 1024, 1024⟩ 1024 (fun _ => false)).effects ≠ [] := by decide

/-- an oversize query: nothing registered, delivered or queued; only the query clock moved -/
theorem C33_query_rejected_silent (cfg : Cfg) (encLen : Nat) (h : cfg.qLimit < encLen) :
    (query cfg encLen) = ⟨false, [.clock "queryClock.Increment"]⟩ ∧ (query cfg encLen).effects = [] := by
  simp [SerfModel.Limits.query, queryT, SerfModel.Gen.Limits.query, run, qEnv, h, Outcome.effects, observable]
example : (1024 : Nat) < 1025 := by decide

/-- the direct response is sent ⇒ its ENCODED length ≤ QueryResponseSizeLimit, the query had not been
answered before and its deadline has not passed -/
theorem C33_response (cfg : Cfg) (respLen : Nat) (tf : String → Bool)
    (h : "SendToAddress" ∈ (respondWithT cfg respLen tf).effects) :
    respLen ≤ cfg.rLimit ∧ tf "recv.deadline.IsZero()" = false ∧ tf "time.Now().After(recv.deadline)" = false := by
  have := passes_of_effects _ _ C33_gen_effects_after_gates.2.2.1 (List.ne_nil_of_mem h)
  simpa [SerfModel.Gen.Limits.respondWithMessageAndResponse, passes, rEnv] using this
example : "SendToAddress" ∈ (respondWithT ⟨512, 1024, 1024⟩ 1024 (fun _ => false)).effects := by decide +kernel

/-- The broken shape (seeded C33-e): if the size guard is skipped for some queries (there: names starting
with `_serf_`), i.e. those queries run the body WITHOUT the guard step, an answer above the limit goes out —
595 bytes with a limit of 300.  This is why the extractor refuses a check that is not applied
unconditionally, and why `C33_response` quantifies over every query (the model has no name to look at). -/
theorem C33_response_skipped_guard_counterexample :
    "SendToAddress" ∈ (run (rEnv ⟨512, 1024, 300⟩ 595) (fun _ => false)
        (respondWithMessageAndResponse.filter (fun s => match s with | .guard _ _ => false | _ => true)) []).effects
    ∧ ¬ (595 ≤ (300 : Nat)) := by decide +kernel

/-- the relay (of the same response) happens after the direct send, never without it -/
theorem C33_response_relay_after_direct (cfg : Cfg) (respLen : Nat) (tf : String → Bool) :
    (respondWithT cfg respLen tf).effects = [] ∨ (respondWithT cfg respLen tf).effects = ["SendToAddress", "relayResponse"] := by
  cases hok : (respondWithT cfg respLen tf).ok with
  | false => exact .inl (run_rejected _ _ _ _ C33_gen_effects_after_gates.2.2.1 hok)
  | true => exact .inr (by rw [Outcome.effects, respondWithT, run_trace _ _ _ _ hok]; rfl)

/-- a relayed copy is sent ⇒ the relay message is within the limit … -/
theorem C33_response_relayed (cfg : Cfg) (relayLen : Nat) (h : "SendToAddress" ∈ (relay cfg relayLen).effects) :
    relayLen ≤ cfg.rLimit := by
  have := passes_of_effects _ _ C33_gen_effects_after_gates.2.2.2 (List.ne_nil_of_mem h)
  simpa [SerfModel.Gen.Limits.relayResponse, passes, rEnv] using this
example : "SendToAddress" ∈ (relay ⟨512, 1024, 1024⟩ 1024).effects := by decide +kernel

/-- … and so is the copy the relay node forwards to the destination (the bytes after the header). -/
theorem C33_response_forwarded (cfg : Cfg) (hdr : RelayHdr) (r : QueryResp)
    (h : "SendToAddress" ∈ (relay cfg (relayEncLen hdr r)).effects) : respEncLen r ≤ cfg.rLimit := by
  have := C33_response_relayed cfg _ h
  simp only [relayEncLen, encodeRelay, respEncLen, List.length_cons, List.length_append] at *
  omega

end SerfProofs.C33
