/-
C04 — Intent gossip is re-queued at most once inside the retention window; merges are silent
(membership part).

Model: `SerfModel.Node` (serf/serf.go `handleNodeJoinIntent`, `handleNodeLeaveIntent`,
`upsertIntent`, `handleNodeJoin`, serf/delegate.go `NotifyMsg`, `MergeRemoteState`).  `NotifyMsg`
re-queues a received messageJoin / messageLeave iff the handler returned true; in the model that
is `(step n op).2.rebroadcast` for `op = .joinMsg … / .leaveMsg …`, and `rebroadcasts n ops` lists
the messages re-queued along a run, in order.

The notions (`covered`, `Keeps`, `Retained` in its strong reading, `NoRejoin`) and the proof, by the
potential `rank` (0 covered / 2 uncovered prune about a known member / 1 otherwise), are in
`SerfProofs.Lemmas.NodeGossip`.

  * `C04_at_most_once_partial`: a join intent or a non-prune leave intent is re-queued at most
    once along any retained run — all 13 inputs of the model are allowed in between (memberlist
    events, other gossip, merges, Leave / force-leave, reaper ticks, refutations).
  * The full statement
        theorem C04_at_most_once (n) (ops) (m) : Retained n ops m → (rebroadcasts n ops).count m ≤ 1
    is FALSE: a prune leave about a known member is re-queued on its 1st delivery (which erases
    the member) and again on its 2nd (the member is now unknown and `upsertIntent` reports a new
    intent); the 3rd is dropped.  `C04_at_most_once_counterexample` is that run; the same
    behaviour was observed on the real node.  `C04_at_most_twice` is what does hold for every
    message when the member is not announced anew in between; `C04_rejoin_third` shows that a
    rejoin between the deliveries allows a third re-queue of a prune leave.
  * Outside the window the bound fails, as it should (`C04_window_needed`: the reaper drops the
    buffered intent, the next copy is new again).
  * `C04_merge_silent`, `C04_merges_never_requeue`: MergeRemoteState never re-queues and queues
    nothing (it ignores the handlers' results).
  * User events and queries (section "user events and queries" at the end; models
    `SerfModel.EventBuf` / `SerfModel.QueryHandle`, theorems of C05 / C08): `handleUserEvent`
    returns true — NotifyMsg re-queues — exactly when the event is delivered, so
    `C04_user_event_at_most_once_partial` (no (time, name, payload) is re-queued twice, for every
    buffer size, start state and history of gossip and push/pull replays without the time 2^64−1)
    is a corollary of C05; `C04_query_at_most_once_partial` is C08's re-broadcast half;
    `C04_pushpull_events_never_requeue`: the event replay of MergeRemoteState ignores
    `handleUserEvent`'s result.  The full statements without `NoWrap` are false
    (`C04_user_event_at_most_once_counterexample`: C19's clock wrap, recorded under C05/C19).
-/
import SerfProofs.Lemmas.NodeGossip
import SerfProofs.Props.C05
import SerfProofs.Props.C08
namespace SerfProofs.C04
open SerfModel SerfModel.Node SerfProofs.NodeGossip

/-- a join intent or non-prune leave intent is re-queued at most once while the node retains what it recorded about the member -/
theorem C04_at_most_once_partial (n : Node) (ops : List Op) (m : Msg) (hr : Retained n ops m)
    (hp : m.isPrune = false) : (rebroadcasts n ops).count m ≤ 1 :=
  Nat.le_trans (count_le_rank m ops n hr (fun h => by rw [hp] at h; cases h)) (rank_le_one_of_not_prune hp)

/-- A run used as witness: the join intent of "a" at time 3 arrives before memberlist announces
"a", again after, and again after "a" failed; in between a merge and an unrelated leave. -/
def demoOps : List Op :=
  [.joinMsg "a" 3 0, .nodeJoin "a", .joinMsg "a" 3 1, .merge 9 [("b", 2)] [] 1, .nodeLeave "a" 7,
   .joinMsg "a" 3 2, .leaveMsg "b" 4 false 2, .joinMsg "a" 3 3]

def demoNode : Node := Node.init "self" {}

theorem demo_retained : Retained demoNode demoOps (.join "a" 3) :=
  ⟨Or.inl rfl,
   Or.inr ⟨fun _ => by decide, fun _ _ _ => Or.inl (by decide)⟩,
   Or.inl rfl,
   Or.inr ⟨fun _ => by decide, fun _ h _ => absurd h (by decide)⟩,
   Or.inr ⟨fun _ => by decide, fun _ h _ => absurd h (by decide)⟩,
   Or.inl rfl,
   Or.inr ⟨fun _ => by decide, fun _ h _ => absurd h (by decide)⟩,
   Or.inl rfl,
   trivial⟩

-- four copies delivered, one re-queued
example : (rebroadcasts demoNode demoOps).count (.join "a" 3) = 1 := by decide
example : (rebroadcasts demoNode demoOps).count (.join "a" 3) ≤ 1 :=
  C04_at_most_once_partial _ _ _ demo_retained rfl
example : rebroadcasts demoNode demoOps = [.join "a" 3, .leave "b" 4 false] := by decide

/-- any intent is re-queued at most twice inside the retention window if the member is not announced anew -/
theorem C04_at_most_twice (n : Node) (ops : List Op) (m : Msg) (hr : Retained n ops m)
    (hj : NoRejoin ops m.node) : (rebroadcasts n ops).count m ≤ 2 :=
  Nat.le_trans (count_le_rank m ops n hr (fun _ => hj)) (rank_le_two n m)

/-- "at most once" fails for prune leaves: known member, three copies, two re-queued -/
theorem C04_at_most_once_counterexample :
    ∃ (n : Node) (ops : List Op) (m : Msg),
      Retained n ops m ∧ NoRejoin ops m.node ∧ (rebroadcasts n ops).count m = 2 :=
  ⟨(step (Node.init "self" {}) (.nodeJoin "a")).1,
   [.leaveMsg "a" 5 true 0, .leaveMsg "a" 5 true 0, .leaveMsg "a" 5 true 0],
   .leave "a" 5 true,
   ⟨Or.inl rfl, Or.inl rfl, Or.inl rfl, trivial⟩,
   (by intro op hop; simp only [List.mem_cons, List.not_mem_nil, or_false, or_self] at hop; subst hop; intro h; cases h),
   by decide⟩

-- the three deliveries one by one: re-queued, re-queued, dropped
example :
    let n0 := (step (Node.init "self" {}) (.nodeJoin "a")).1
    let r1 := step n0 (.leaveMsg "a" 5 true 0)
    let r2 := step r1.1 (.leaveMsg "a" 5 true 0)
    let r3 := step r2.1 (.leaveMsg "a" 5 true 0)
    (r1.2.rebroadcast, known r1.1 "a", r2.2.rebroadcast, r3.2.rebroadcast) = (true, false, true, false) := by
  decide

/-- a rejoin between the copies allows a third re-queue of a prune leave: `NoRejoin` is needed -/
theorem C04_rejoin_third :
    ∃ (n : Node) (ops : List Op) (m : Msg), Retained n ops m ∧ (rebroadcasts n ops).count m = 3 :=
  ⟨(step (Node.init "self" {}) (.nodeJoin "a")).1,
   [.leaveMsg "a" 5 true 0, .nodeJoin "a", .leaveMsg "a" 5 true 0, .leaveMsg "a" 5 true 0],
   .leave "a" 5 true,
   ⟨Or.inl rfl,
    Or.inr ⟨fun h => absurd h (by decide), fun _ _ _ => Or.inl (by decide)⟩,
    Or.inl rfl, Or.inl rfl, trivial⟩,
   by decide⟩

/-- outside the retention window a message is new again: the reaper drops the buffered intent -/
theorem C04_window_needed :
    (rebroadcasts (Node.init "self" {}) [.joinMsg "a" 3 0, .reap 100 (fun _ t => t), .joinMsg "a" 3 100]).count
      (.join "a" 3) = 2 := by
  decide

-- and that reaper tick does not keep the window open
example : ¬ Keeps (step (Node.init "self" {}) (.joinMsg "a" 3 0)).1 (.reap 100 (fun _ t => t)) "a" := by
  intro h
  rcases h.2 ⟨false, 3, 0⟩ (by decide) (by decide) with hk | ⟨i', hi', _⟩
  · exact absurd hk (by decide)
  · have : intentOf (step (step (Node.init "self" {}) (.joinMsg "a" 3 0)).1 (.reap 100 (fun _ t => t))).1 "a" = none := by
      decide
    rw [this] at hi'; cases hi'

theorem C04_merge_silent (n : Node) (lt : Nat) (st : List (Name × Nat)) (lf : List Name) (w : Nat) :
    (step n (.merge lt st lf w)).2.rebroadcast = false ∧ (step n (.merge lt st lf w)).2.queued = [] :=
  ⟨rfl, rfl⟩

theorem C04_merges_never_requeue (n : Node) (ops : List Op)
    (h : ∀ op ∈ ops, ∃ lt st lf w, op = .merge lt st lf w) : rebroadcasts n ops = [] := by
  induction ops generalizing n with
  | nil => rfl
  | cons op ops ih =>
    obtain ⟨lt, st, lf, w, rfl⟩ := h _ (List.mem_cons_self ..)
    rw [rebroadcasts_cons]
    exact ih _ (fun o ho => h o (List.mem_cons_of_mem _ ho))

-- a merge that does change the state (a new intent for "a", "b" marked leaving) and stays silent
example :
    let r := step (step (Node.init "self" {}) (.nodeJoin "b")).1 (.merge 9 [("a", 4), ("b", 2)] ["b"] 1)
    (intentOf r.1 "a", statusOf r.1 "b", r.2.rebroadcast, r.2.queued) =
      (some ⟨false, 4, 1⟩, some .leaving, false, []) := by
  decide
example : rebroadcasts (Node.init "self" {}) [.merge 9 [("a", 4)] [] 1, .merge 9 [("a", 6)] ["c"] 2] = [] :=
  C04_merges_never_requeue _ _ (by
    intro op hop
    simp only [List.mem_cons, List.not_mem_nil, or_false] at hop
    rcases hop with rfl | rfl <;> exact ⟨_, _, _, _, rfl⟩)

/-- a covered message is never re-queued -/
theorem C04_covered_not_requeued (n : Node) (op : Op) (m : Msg) (hm : op.msg? = some m)
    (hc : covered n m = true) : (step n op).2.rebroadcast = false := by
  rcases outcome_deliver n op m hm with ⟨hr, _, _⟩ | ⟨_, hc', _⟩ | ⟨_, hc', _⟩
  · exact hr
  · rw [hc] at hc'; cases hc'
  · rw [hc] at hc'; cases hc'

/-- a delivery that is re-queued was not covered, and makes the message covered or (prune leave about a known member) erases the member; one that is not re-queued leaves members and intents as they were -/
theorem C04_requeue_effect (n : Node) (op : Op) (m : Msg) (hm : op.msg? = some m) :
    ((step n op).2.rebroadcast = true →
      covered n m = false ∧
      (covered (step n op).1 m = true ∨
       (m.isPrune = true ∧ known n m.node = true ∧ known (step n op).1 m.node = false))) ∧
    ((step n op).2.rebroadcast = false →
      (step n op).1.members = n.members ∧ (step n op).1.intents = n.intents) := by
  have ho := outcome_deliver n op m hm
  constructor
  · intro hr
    rcases ho with ⟨h, _, _⟩ | ⟨_, hc, hc'⟩ | ⟨_, hc, hp, hk, hk'⟩
    · rw [hr] at h; cases h
    · exact ⟨hc, Or.inl hc'⟩
    · exact ⟨hc, Or.inr ⟨hp, hk, hk'⟩⟩
  · intro hr
    rcases ho with ⟨_, hm', hi'⟩ | ⟨h, _, _⟩ | ⟨h, _, _⟩
    · exact ⟨hm', hi'⟩
    · rw [hr] at h; cases h
    · rw [hr] at h; cases h

-- Witness: after the first copy the message is covered, the second copy is dropped.
example : covered (step demoNode (.joinMsg "a" 3 0)).1 (.join "a" 3) = true ∧
    (step (step demoNode (.joinMsg "a" 3 0)).1 (.joinMsg "a" 3 1)).2.rebroadcast = false := by decide
example : (step demoNode (.joinMsg "a" 3 0)).2.rebroadcast = true ∧ covered demoNode (.join "a" 3) = false := by
  decide

/-! ### user events and queries

`delegate.NotifyMsg` re-queues a messageUserEvent iff `handleUserEvent` returned true, and that
function returns true only on the path that appends the event to its slot and hands it to the
application (`Res.delivered` in `SerfModel.EventBuf.handle`); every other path (below the
cut-off, too old, duplicate) returns false.  `delegate.MergeRemoteState` calls
`handleUserEvent` for every event of the remote buffer image and ignores the result. -/

section Events
open SerfModel.Atomic SerfModel.EventBuf SerfProofs.EventBuf
variable {α : Type} [DecidableEq α]

/-- The user events re-queued by NotifyMsg along a history of one node's event buffer: a gossip
delivery is re-queued iff it was delivered; a push/pull replay re-queues nothing. -/
def eventRequeues (b : Buf α) : List (In α) → List (W × α)
  | [] => []
  | .gossip lt x :: rest =>
    (if (handle b lt x).2 = .delivered then [(lt, x)] else []) ++ eventRequeues (handle b lt x).1 rest
  | .pushPull e raise image :: rest => eventRequeues (stepIn b (.pushPull e raise image)).1 rest

theorem eventRequeues_sublist (ins : List (In α)) : ∀ b : Buf α,
    (eventRequeues b ins).Sublist (deliveries b ins) := by
  induction ins with
  | nil => intro b; simp [eventRequeues, deliveries, SerfModel.EventBuf.run]
  | cons i rest ih =>
    intro b
    cases i with
    | gossip lt x =>
      have := ih (handle b lt x).1
      simp only [eventRequeues, deliveries, SerfModel.EventBuf.run, stepIn_gossip] at this ⊢
      exact List.Sublist.append (List.Sublist.refl _) this
    | pushPull e raise image =>
      have := ih (stepIn b (.pushPull e raise image)).1
      simp only [eventRequeues, deliveries, SerfModel.EventBuf.run] at this ⊢
      exact List.Sublist.trans this (List.sublist_append_right _ _)

/-- **A user event is re-queued at most once per node**: for every buffer size, start state
(fresh or restored from a snapshot) and every history of gossip deliveries and push/pull
replays that does not carry the time 2^64−1. -/
theorem C04_user_event_at_most_once_partial (N : Nat) (hN : 0 < N) (hN2 : N < 2 ^ 64) (c m : W)
    (ins : List (In α)) (hnw : NoWrap ins) : (eventRequeues (Buf.start N c m) ins).Nodup :=
  List.Nodup.sublist (eventRequeues_sublist ins _) (C05.C05_at_most_once_partial N hN hN2 c m ins hnw)

/-- re-queued ⇔ delivered, for one gossip delivery -/
theorem C04_user_event_requeue_iff (b : Buf α) (lt : W) (x : α) :
    (lt, x) ∈ (if (handle b lt x).2 = .delivered then [(lt, x)] else []) ↔ (handle b lt x).2 = .delivered := by
  by_cases h : (handle b lt x).2 = .delivered <;> simp [h]

/-- **State-sync merges never re-queue user events.** -/
theorem C04_pushpull_events_never_requeue (b : Buf α) (ins : List (In α))
    (h : ∀ i ∈ ins, ∃ e raise image, i = .pushPull e raise image) : eventRequeues b ins = [] := by
  induction ins generalizing b with
  | nil => rfl
  | cons i rest ih =>
    obtain ⟨e, raise, image, rfl⟩ := h i (List.mem_cons_self ..)
    simp only [eventRequeues]
    exact ih _ (fun j hj => h j (List.mem_cons_of_mem _ hj))

-- non-vacuity: a history with a duplicate, a replay that delivers, and a copy after the replay
example : eventRequeues (α := Nat) (Buf.init 2) [.gossip 1#64 7, .gossip 1#64 7, .gossip 3#64 8,
    .pushPull 9#64 false [some (1#64, [7, 9]), none, some (8#64, [7])], .gossip 8#64 7, .gossip 1#64 9]
    = [(1#64, 7), (3#64, 8)] := by decide
example : eventRequeues (α := Nat) (Buf.init 2)
    [.pushPull 9#64 false [some (1#64, [7, 9])], .pushPull 3#64 true [some (2#64, [1])]] = [] :=
  C04_pushpull_events_never_requeue _ _ (by
    intro i hi
    simp only [List.mem_cons, List.not_mem_nil, or_false] at hi
    rcases hi with rfl | rfl <;> exact ⟨_, _, _, rfl⟩)

/-- The full statement (without `NoWrap`) is false: C05's wrap witness is re-queued twice as well
(buffer of 2: (1, 7) re-queued; (2^64−1, 8) wraps the event clock to 0 and evicts it; the copy of
(1, 7) is delivered and re-queued again). -/
theorem C04_user_event_at_most_once_counterexample :
    ¬ (eventRequeues (α := Nat) (Buf.init 2)
        [.gossip 1#64 7, .gossip (BitVec.allOnes 64) 8, .gossip 1#64 7]).Nodup := by decide

end Events

section Queries
open SerfModel.Atomic SerfModel.EventBuf SerfModel.QueryHandle SerfProofs.EventBuf

/-- **A query is re-queued at most once per node** (`handleQuery` returns true iff the query is
first seen in the window and re-broadcast is not disabled — `C08_rebroadcast_iff`): for every
buffer size, start state, node configuration, regex oracle and every history of query messages
without the time 2^64−1, no (time, id) is re-broadcast twice.  Push/pull does not carry queries. -/
theorem C04_query_at_most_once_partial (re : Oracle) (cfg : NodeCfg) (N : Nat) (hN : 0 < N)
    (hN2 : N < 2 ^ 64) (c m : W) (qs : List QueryMsg) (hnw : NoWrap (C08.asIns qs)) :
    (runQ re cfg (Buf.start N c m) qs).2.2.Nodup :=
  (C08.C08_once_partial re cfg N hN hN2 c m qs hnw).2

example : (runQ C08.exRe C08.exCfg (Buf.init 4) [C08.exQ1, C08.exQ1, C08.exQ2]).2.2 = [(5#64, 9)] := by decide

end Queries

end SerfProofs.C04
