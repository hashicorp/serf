/-
C27 — Event handler scripts are invoked per the documented contract (pure parts).

Model: `SerfModel.EventScript`.  Process creation, the shell, pipes and exit codes are exercised by
the harness, not modelled (except that os/exec refuses a NUL byte in the environment: `hasNul`).
-/
import SerfProofs.Lemmas.EventScript
import SerfModel.Model.SourceShape
import SerfModel.Gen.EventScriptSrc
namespace SerfProofs.C27
open SerfModel.EventScript SerfProofs.EventScript

/-! `Matches` is the documented meaning of a filter entry: `*` matches everything; otherwise
the event type must be the entry's, and a `user:NAME` / `query:NAME` entry also needs that
name. -/

def Matches (f : Filter) (e : Event) : Prop :=
  f.event = starB ∨
  (f.event = e.kind.str ∧
    (f.name = [] ∨ (f.event ≠ userB ∧ f.event ≠ queryB) ∨ e.name? = some f.name))

theorem kind_str_user : ∀ k : Kind, k.str = userB → k = .user := by
  intro k
  cases k <;> decide
theorem userB_ne_queryB : userB ≠ queryB := by decide

/-- **`EventFilter.Invoke` is true exactly when the filter entry matches the event.** -/
theorem C27_runs_iff_matches (f : Filter) (e : Event) : invoke f e = true ↔ Matches f e := by
  unfold invoke Matches
  by_cases hs : f.event = starB
  · simp [hs]
  by_cases hk : f.event = e.kind.str
  case neg => simp [hs, hk, Ne.symm hk]
  -- same event type: what is left are the two name tests
  cases e with
  | member k ms =>
    by_cases hn : f.name = [] <;> simp [hk, hn, Event.name?, Event.kind]
  | user n lt p =>
    simp [hk, Event.name?, Event.kind, Kind.str, userB_ne_queryB]
  | query n lt p =>
    simp [hk, Event.name?, Event.kind, Kind.str, userB_ne_queryB.symm]

example : Matches ⟨userB, [100]⟩ (.user [100] 3 []) := by
  right; exact ⟨rfl, Or.inr (Or.inr rfl)⟩

/-- **HandleEvent runs a script once per matching entry, in order**: a script is run for an
event iff one of its entries matches, and as often as entries match. -/
theorem C27_handle_runs (scripts : List (Filter × Bytes)) (e : Event) (s : Bytes) :
    s ∈ runsOf scripts e ↔ ∃ f, (f, s) ∈ scripts ∧ Matches f e := by
  simp only [runsOf, List.mem_map, List.mem_filter, C27_runs_iff_matches]
  constructor
  · rintro ⟨⟨f, _⟩, ⟨hm, hM⟩, rfl⟩
    exact ⟨f, hm, hM⟩
  · rintro ⟨f, hm, hM⟩
    exact ⟨(f, s), ⟨hm, hM⟩, rfl⟩

/-
FULL statement including process start (not provable: os/exec refuses an environment entry
with a NUL byte, e.g. a user event or query whose NAME contains NUL, and then no handler runs):

  theorem C27_started (scripts) (env) (e) (s) : s ∈ startedOf scripts env e ↔ ∃ f, (f, s) ∈ scripts ∧ Matches f e
-/

/-- PARTIAL: when no environment entry contains a NUL byte, exactly the matching scripts start. -/
theorem C27_started_partial (scripts : List (Filter × Bytes)) (env : List (Bytes × Bytes)) (e : Event) (s : Bytes)
    (h : hasNul env = false) : s ∈ startedOf scripts env e ↔ ∃ f, (f, s) ∈ scripts ∧ Matches f e := by
  unfold startedOf
  simp only [h, Bool.false_eq_true, ↓reduceIte]
  exact C27_handle_runs scripts e s

example : hasNul [([83], [97, 98])] = false := by decide

/-- COUNTEREXAMPLE: a user event named `a\0b`, a handler for every event: the filter matches,
`SERF_USER_EVENT=a\0b` contains a NUL byte, nothing is started (recorded finding `nul-in-env`). -/
theorem C27_started_counterexample :
    invoke ⟨starB, []⟩ (.user [97, 0, 98] 7 []) = true ∧
    startedOf [(⟨starB, []⟩, [115])] [([85], [97, 0, 98])] (.user [97, 0, 98] 7 []) = [] := by decide

/-- … as often as entries match: one run per matching entry. -/
theorem C27_handle_run_count (scripts : List (Filter × Bytes)) (e : Event) :
    (runsOf scripts e).length = (scripts.filter (fun p => invoke p.1 e)).length := by
  simp [runsOf]

/-- no filter = every event -/
theorem C27_parse_empty : parseEventFilter [] = [⟨starB, []⟩] := by decide

/-- one filter entry per comma-separated item -/
theorem C27_parse_entries (v : Bytes) (h : v ≠ []) :
    parseEventFilter v = (splitOn COMMA v).map parseEntry := by
  cases v with
  | nil => exact absurd rfl h
  | cons _ _ => rfl

theorem C27_parse_user (n : Bytes) : parseEntry (userPfx ++ n) = ⟨userB, n⟩ := by
  unfold parseEntry hasPrefix
  simp [userPfx]

theorem C27_parse_query (n : Bytes) : parseEntry (queryPfx ++ n) = ⟨queryB, n⟩ := by
  unfold parseEntry hasPrefix
  have h1 : userPfx.isPrefixOf (queryPfx ++ n) = false := by simp [userPfx, queryPfx, List.isPrefixOf]
  rw [h1, List.isPrefixOf_iff_prefix.mpr (List.prefix_append _ _)]
  simp [queryPfx]

theorem parseEventFilter_single (v : Bytes) (hne : v ≠ []) (hc : COMMA ∉ v) :
    parseEventFilter v = [parseEntry v] := by
  rw [C27_parse_entries v hne, splitOn_of_not_mem hc]
  rfl

/-- **A filter `user:NAME` parses to exactly the name NAME, for every NAME without a comma** —
colons, `=`, spaces and anything else after the first colon belong to the name. -/
theorem C27_parse_user_filter (n : Bytes) (h : COMMA ∉ n) : parseEventFilter (userPfx ++ n) = [⟨userB, n⟩] := by
  rw [parseEventFilter_single _ (by simp [userPfx]) fun hm => (List.mem_append.mp hm).elim (by decide) h,
    C27_parse_user]

/-- the comma-free hypothesis of `C27_parse_user_filter` cannot be dropped: a comma ends the entry -/
theorem C27_parse_user_filter_comma_needed :
    parseEventFilter (userPfx ++ [97, 44, 98]) = [⟨userB, [97]⟩, ⟨[98], []⟩] := by decide

theorem C27_parse_query_filter (n : Bytes) (h : COMMA ∉ n) : parseEventFilter (queryPfx ++ n) = [⟨queryB, n⟩] := by
  rw [parseEventFilter_single _ (by simp [queryPfx]) fun hm => (List.mem_append.mp hm).elim (by decide) h,
    C27_parse_query]

/-- **Filter-matching exactness for a named filter**: a handler configured with `user:NAME`
(NAME non-empty, without a comma) runs for an event exactly when it is a user event whose
name is NAME — not a prefix of it, not NAME cut at a colon. -/
theorem C27_user_filter_exact (n : Bytes) (hn : n ≠ []) (hc : COMMA ∉ n) (e : Event) :
    (parseEventFilter (userPfx ++ n)).any (fun f => invoke f e) = true ↔ ∃ lt p, e = .user n lt p := by
  rw [C27_parse_user_filter n hc]
  simp only [List.any_cons, List.any_nil, Bool.or_false, C27_runs_iff_matches, Matches]
  have hs : userB ≠ starB := by decide
  cases e with
  | member k ms => simp [hs, hn, Event.name?]
  | user n' lt p => simp [hs, hn, Event.name?, Event.kind, Kind.str, eq_comm]
  | query n' lt p => simp [hs, Event.kind, Kind.str, userB_ne_queryB]

/-- … and for `query:NAME`. -/
theorem C27_query_filter_exact (n : Bytes) (hn : n ≠ []) (hc : COMMA ∉ n) (e : Event) :
    (parseEventFilter (queryPfx ++ n)).any (fun f => invoke f e) = true ↔ ∃ lt p, e = .query n lt p := by
  rw [C27_parse_query_filter n hc]
  simp only [List.any_cons, List.any_nil, Bool.or_false, C27_runs_iff_matches, Matches]
  have hs : queryB ≠ starB := by decide
  cases e with
  | member k ms => simp [hs, hn, Event.name?]
  | user n' lt p => simp [hs, Event.kind, Kind.str, userB_ne_queryB.symm]
  | query n' lt p => simp [hs, hn, Event.name?, Event.kind, Kind.str, eq_comm]

example : COMMA ∉ ([100, 58, 112] : Bytes) ∧ ([100, 58, 112] : Bytes) ≠ [] := by decide

/-- the non-empty name of `C27_user_filter_exact` cannot be dropped either: `user:` with an empty
name selects every user event. -/
theorem C27_user_filter_empty_name (e : Event) :
    (parseEventFilter userPfx).any (fun f => invoke f e) = true ↔ e.kind = .user := by
  rw [show parseEventFilter userPfx = [⟨userB, []⟩] by decide]
  simp only [List.any_cons, List.any_nil, Bool.or_false, C27_runs_iff_matches, Matches]
  have hs : userB ≠ starB := by decide
  simp only [hs, false_or, true_or, and_true]
  constructor
  · intro h
    exact kind_str_user e.kind h.symm
  · intro h
    rw [h]
    rfl

/-- `type=script`: everything before the first `=` is the filter, the rest the script -/
theorem C27_parse_script_split (f s : Bytes) (h : EQ ∉ f) : cutEq (f ++ EQ :: s) = some (f, s) := by
  induction f with
  | nil => simp [cutEq]
  | cons c rest ih =>
    simp only [List.mem_cons, not_or] at h
    simp [cutEq, Ne.symm h.1, ih h.2]

/-- **What the script sees**: exactly `SERF_EVENT` (the event type), `SERF_SELF_NAME`,
`SERF_SELF_ROLE` (the `role` tag, empty when absent), one `SERF_TAG_<sanitised name>` per tag
with the tag's value unchanged, and for a user event / query its name and Lamport time —
nothing else is added, for every node name, tag map and event. -/
theorem C27_env_contents (selfName : Bytes) (selfTags : Tags) (san : Bytes → Bytes) (e : Event) :
    envOf selfName selfTags san e =
      [(b "SERF_EVENT", e.kind.str), (b "SERF_SELF_NAME", selfName), (b "SERF_SELF_ROLE", lookupB selfTags roleB)]
      ++ selfTags.map (fun p => (b "SERF_TAG_" ++ san p.1, p.2))
      ++ (match e with
          | .member .. => []
          | .user n lt _ => [(b "SERF_USER_EVENT", n), (b "SERF_USER_LTIME", decB lt)]
          | .query n lt _ => [(b "SERF_QUERY_NAME", n), (b "SERF_QUERY_LTIME", decB lt)]) := rfl

/-- Nothing else is added: three fixed entries, one per tag, two more for a user event or query. -/
theorem C27_env_size (selfName : Bytes) (selfTags : Tags) (san : Bytes → Bytes) (e : Event) :
    (envOf selfName selfTags san e).length = 3 + selfTags.length + (if e.name?.isSome then 2 else 0) := by
  cases e <;> simp [envOf, Event.name?] <;> omega

/-- every tag of the node is visible, with its value unchanged, under its sanitised name -/
theorem C27_env_tag (selfName : Bytes) (selfTags : Tags) (san : Bytes → Bytes) (e : Event) (k v : Bytes)
    (h : (k, v) ∈ selfTags) : (b "SERF_TAG_" ++ san k, v) ∈ envOf selfName selfTags san e := by
  apply List.mem_append_left
  apply List.mem_append_right
  exact List.mem_map.mpr ⟨(k, v), h, rfl⟩

example : ((([114], [119]) : Bytes × Bytes)) ∈ ([([114], [119])] : Tags) := by decide

/-- **every character of a sanitised tag name is in `[A-Z0-9_]`**, for every name -/
theorem C27_sanitize_alphabet (name : List Char) : ∀ c ∈ sanitizeChars name, okRune c = true := by
  intro c hc
  unfold sanitizeChars at hc
  simp only [List.mem_map] at hc
  obtain ⟨a, _, rfl⟩ := hc
  split
  · assumption
  · decide

theorem C27_sanitize_length (name : List Char) : (sanitizeChars name).length = name.length := by
  simp [sanitizeChars]

/-- **`eventClean` output contains no tab and no newline** -/
theorem C27_eventClean_clean (v : Bytes) : TAB ∉ eventClean v ∧ NL ∉ eventClean v := by
  induction v with
  | nil => simp [eventClean]
  | cons c rest ih =>
    have hb : TAB ≠ BSL ∧ TAB ≠ 116 ∧ TAB ≠ 110 ∧ NL ≠ BSL ∧ NL ≠ 116 ∧ NL ≠ 110 := by decide
    unfold eventClean
    split
    · simp [ih, hb]
    · split
      · simp [ih, hb]
      · next h1 h2 =>
        have n1 : TAB ≠ c := fun e => h1 (by simp [e])
        have n2 : NL ≠ c := fun e => h2 (by simp [e])
        simp [ih, n1, n2]

/-- the escaping is not reversible: a tab and the two characters `\t` give the same field
(the documentation promises escaping, not a decodable encoding) -/
theorem C27_eventClean_not_injective : eventClean [9] = eventClean [92, 116] := by decide

/-- **The four fields of a member line are exactly** the escaped name, the address, the escaped
role and the escaped `name=value,…` list (followed by the newline). -/
theorem C27_member_line_fields (m : Member) (haddr : TAB ∉ m.addr ∧ NL ∉ m.addr) :
    splitOn TAB (memberLine m) =
      [eventClean m.name, m.addr, eventClean (lookupB m.tags roleB), eventClean (tagPairs m.tags) ++ [NL]] := by
  unfold memberLine
  have h4 : TAB ∉ eventClean (tagPairs m.tags) ++ [NL] := by
    intro hm
    rcases List.mem_append.mp hm with hm | hm
    · exact (C27_eventClean_clean _).1 hm
    · simp [TAB, NL] at hm
  simp only [List.append_assoc, List.cons_append]
  rw [splitOn_append_sep (C27_eventClean_clean _).1, splitOn_append_sep haddr.1,
    splitOn_append_sep (C27_eventClean_clean _).1, splitOn_of_not_mem h4]

/-- **Each member line has exactly four tab-separated fields and exactly one newline, at its
end** — whatever the member's name, role and tags contain (the address is rendered by
`net.IP.String()`, which never contains a tab or newline: hypothesis `haddr`). -/
theorem C27_member_line (m : Member) (haddr : TAB ∉ m.addr ∧ NL ∉ m.addr) :
    (splitOn TAB (memberLine m)).length = 4 ∧
    (memberLine m).count NL = 1 ∧
    (memberLine m).getLast? = some NL := by
  refine ⟨by rw [C27_member_line_fields m haddr]; rfl, ?_, ?_⟩
  · have hclean : ∀ v, (eventClean v).count NL = 0 := fun v => List.count_eq_zero.mpr (C27_eventClean_clean v).2
    simp [memberLine, List.count_cons, hclean, List.count_eq_zero.mpr haddr.2, show (TAB == NL) = false by decide]
  · have : memberLine m = (eventClean m.name ++ TAB :: m.addr ++ TAB :: eventClean (lookupB m.tags roleB)
        ++ TAB :: eventClean (tagPairs m.tags)) ++ [NL] := by simp [memberLine]
    rw [this, List.getLast?_concat]

example : TAB ∉ ([49, 46, 50] : Bytes) ∧ NL ∉ ([49, 46, 50] : Bytes) := by decide

theorem digit_clean (n : Nat) : TAB ≠ digit n ∧ NL ≠ digit n := by
  have h : ∀ k : Fin 10, TAB ≠ UInt8.ofNat (48 + k.val) ∧ NL ≠ UInt8.ofNat (48 + k.val) := by decide
  exact h ⟨n % 10, Nat.mod_lt _ (by decide)⟩

theorem octet_clean (n : Nat) : TAB ∉ octet n ∧ NL ∉ octet n := by
  have dt := fun k => (digit_clean k).1
  have dn := fun k => (digit_clean k).2
  unfold octet
  split
  · simp [dt, dn]
  · split <;> simp [dt, dn]

/-- the dotted-decimal text of an IPv4 address and the text of the nil address contain neither
a tab nor a newline -/
theorem C27_addr_clean (a c d e : Nat) :
    (TAB ∉ ipv4 a c d e ∧ NL ∉ ipv4 a c d e) ∧ (TAB ∉ nilAddr ∧ NL ∉ nilAddr) := by
  refine ⟨?_, by decide⟩
  have hd : TAB ≠ DOT ∧ NL ≠ DOT := by decide
  simp [ipv4, octet_clean, hd]

/-- **`C27_member_line` without a hypothesis**, for every member with an IPv4 or nil address:
four tab-separated fields, one newline, at the end — whatever name, role and tags contain. -/
theorem C27_member_line_ipv4 (name : Bytes) (tags : Tags) (a c d e : Nat) :
    (splitOn TAB (memberLine ⟨name, ipv4 a c d e, tags⟩)).length = 4 ∧
    (memberLine ⟨name, ipv4 a c d e, tags⟩).count NL = 1 ∧
    (memberLine ⟨name, ipv4 a c d e, tags⟩).getLast? = some NL ∧
    (splitOn TAB (memberLine ⟨name, nilAddr, tags⟩)).length = 4 ∧
    (memberLine ⟨name, nilAddr, tags⟩).count NL = 1 :=
  have h1 := C27_member_line ⟨name, ipv4 a c d e, tags⟩ (C27_addr_clean a c d e).1
  have h2 := C27_member_line ⟨name, nilAddr, tags⟩ (C27_addr_clean a c d e).2
  ⟨h1.1, h1.2.1, h1.2.2, h2.1, h2.2.1⟩

example : ipv4 10 0 200 7 = [49, 48, 46, 48, 46, 50, 48, 48, 46, 55] := by decide

/-- one line per member -/
theorem C27_member_stdin_lines (ms : List Member) (haddr : ∀ m ∈ ms, TAB ∉ m.addr ∧ NL ∉ m.addr) :
    (memberStdin ms).count NL = ms.length := by
  induction ms with
  | nil => rfl
  | cons m rest ih =>
    unfold memberStdin at ih ⊢
    simp only [List.flatMap_cons, List.count_append, List.length_cons]
    rw [(C27_member_line m (haddr m (by simp))).2.1, ih (fun x hx => haddr x (List.mem_cons_of_mem _ hx))]
    omega

/-- **Payload newline rule**: an empty payload gives empty input; otherwise the input is the
payload, with one newline appended exactly when the payload does not end in one; so a
non-empty payload always reaches the script ending in a newline. -/
theorem C27_payload_rule (p : Bytes) :
    (p = [] → payloadStdin p = []) ∧
    (p ≠ [] → (payloadStdin p).getLast? = some NL) ∧
    (p.getLast? = some NL → payloadStdin p = p) ∧
    (p ≠ [] → p.getLast? ≠ some NL → payloadStdin p = p ++ [NL]) := by
  unfold payloadStdin
  cases hl : p.getLast? with
  | none => simp [List.getLast?_eq_none_iff.mp hl]
  | some c =>
    have hp : p ≠ [] := fun h => by simp [h] at hl
    by_cases hc : c = NL
    · subst hc
      simp [hp, hl]
    · simp [hp, hc]

/-- **The collected output is the last 8192 bytes of everything the script wrote, however
the writes were chunked** (for any buffer size). -/
theorem C27_output_last (size : Nat) (chunks : List Bytes) :
    chunks.foldl (circWrite size) [] = takeLast size chunks.flatten := by
  have gen : ∀ (acc : Bytes), chunks.foldl (circWrite size) (takeLast size acc) = takeLast size (acc ++ chunks.flatten) := by
    induction chunks with
    | nil => intro acc; simp
    | cons c rest ih =>
      intro acc
      simp only [List.foldl_cons, List.flatten_cons]
      rw [show circWrite size (takeLast size acc) c = takeLast size (takeLast size acc ++ c) from rfl,
        takeLast_append_takeLast, ih (acc ++ c), List.append_assoc]
  have := gen []
  simpa [takeLast] using this

theorem C27_last8k (out : Bytes) :
    (last8k out).length = min out.length 8192 ∧ last8k out <:+ out ∧ (out.length ≤ 8192 → last8k out = out) :=
  ⟨takeLast_length _ _, takeLast_suffix _ _, takeLast_of_le _ _⟩

/-- **Query response**: a response is attempted exactly for a query whose script exited
successfully with output; it carries the last 8 KiB of the output and is sent exactly when
the encoded response fits the response size limit. -/
theorem C27_respond (limit : Nat) (isQuery exitOk : Bool) (out : Bytes) (ltime id fromLen : Nat) :
    (respond limit isQuery exitOk out ltime id fromLen = .none ↔ ¬(isQuery = true ∧ exitOk = true ∧ out ≠ [])) ∧
    (∀ p, respond limit isQuery exitOk out ltime id fromLen = .sent p →
        p = last8k out ∧ respSize ltime id fromLen p.length ≤ limit) ∧
    (respond limit isQuery exitOk out ltime id fromLen = .tooLarge →
        respSize ltime id fromLen (last8k out).length > limit) := by
  have hq : (isQuery && exitOk && decide (out.length > 0)) = true ↔ (isQuery = true ∧ exitOk = true ∧ out ≠ []) := by
    simp [List.length_pos_iff, and_assoc]
  unfold respond
  simp only [hq]
  split
  · next h =>
    split
    · next hsz => simp [h, hsz]
    · next hsz =>
      refine ⟨by simp [h], ?_, by simp⟩
      intro p hp
      injection hp with hp
      subst hp
      exact ⟨rfl, by omega⟩
  · next h => simp [h]

/-- **Every event is handled with `SelfFunc`'s answer of that moment** — for every history of
tag/name changes and events, in particular user events and queries right after a change with no
member event in between — when the handler does not cache the member. -/
theorem C27_self_current (sh : SelfShape) (h : sh.cachesSelf = false) (cache : Option Self)
    (hist : List (Self × Event)) : selfHistory sh cache hist = hist.map (·.1) := by
  induction hist generalizing cache with
  | nil => rfl
  | cons p rest ih =>
    simp only [selfHistory, selfFor, h, Bool.false_eq_true, ↓reduceIte, List.map_cons, ih]

/-- hence the environment of the i-th run is `envOf` of the i-th answer of `SelfFunc` -/
theorem C27_env_current_self (sh : SelfShape) (h : sh.cachesSelf = false) (san : Bytes → Bytes)
    (hist : List (Self × Event)) :
    (List.zip (selfHistory sh none hist) (hist.map (·.2))).map (fun p => envOf p.1.name p.1.tags san p.2) =
      hist.map (fun p => envOf p.1.name p.1.tags san p.2) := by
  rw [C27_self_current sh h, List.zip_map', List.map_map]
  rfl

example : (⟨false⟩ : SelfShape).cachesSelf = false := rfl

/-- COUNTEREXAMPLE for a handler that caches the member and refreshes it on member events only
(seeded C27-e): the role changes from `a` to `b`, the next user event still runs with `a`. -/
theorem C27_self_cached_counterexample :
    selfHistory ⟨true⟩ none
      [(⟨[110], [([114, 111, 108, 101], [97])]⟩, .user [120] 1 []), (⟨[110], [([114, 111, 108, 101], [98])]⟩, .user [120] 2 [])]
    = [⟨[110], [([114, 111, 108, 101], [97])]⟩, ⟨[110], [([114, 111, 108, 101], [97])]⟩] := by decide

/-- The list in effect AFTER the swap follows `lastConfig` from every handler state `h`, with an update pending or not,
provided the list it starts from is also taken after the swap
(an update replaces that list, an event leaves it: the swap is idempotent). -/
theorem swapIn_applyOps (ops : List HOp) (h : HandlerState) :
    (swapIn (applyOps h ops)).scripts = lastConfig (swapIn h).scripts ops := by
  induction ops generalizing h with
  | nil => rfl
  | cons o rest ih =>
    rw [applyOps, ih]
    cases o with
    | update l => rfl
    | event env e => cases hp : h.pending <;> simp [applyOp, handleEvent, swapIn, lastConfig, hp]

/-- **Only the handlers configured last run**: after any history of reloads and events, the
scripts started for the next event are exactly the matching entries of the configuration given
LAST (the initial one if there was no reload) — also when that configuration is empty; a handler
that is no longer configured never runs. -/
theorem C27_reload_exact (init : List (Filter × Bytes)) (ops : List HOp) (env : List (Bytes × Bytes)) (e : Event) :
    (handleEvent (applyOps ⟨init, none⟩ ops) env e).2 = startedOf (lastConfig init ops) env e := by
  rw [handleEvent, swapIn_applyOps]
  rfl

/-- a reload to NO handlers silences every handler (seeded C27-d kept the old ones running) -/
theorem C27_reload_to_empty (init : List (Filter × Bytes)) (env : List (Bytes × Bytes)) (e : Event) :
    (handleEvent (applyOps ⟨init, none⟩ [.update []]) env e).2 = [] := by
  rw [C27_reload_exact]
  simp [lastConfig, startedOf, runsOf]

example : (handleEvent (applyOps ⟨[(⟨starB, []⟩, [115])], none⟩ [.update [], .update [(⟨starB, []⟩, [116])]]) [] (.user [97] 1 [])).2 = [[116]] := by
  decide

/-! ## the decisive shapes and constants of the source

`SerfModel.Gen.EventScriptSrc` (regenerated on every run): statement skeletons of the event-handler
functions and, byte for byte, the constants and literals in them.  Each obligation names the model
definition it justifies.

An equation between a generated definition and the literal it should be is `rfl`: string literals
are compared as such.  `once` / `hasBlock` / `before` have to tell different strings apart, which
means UTF-8-encoding both sides of every comparison inside the evaluator — by far the dearest step
here, so it is done by the kernel only (`decide +kernel`). -/

open SerfModel.SourceShape
section Src
open SerfModel.Gen

/-- `maxBufSize`, the buffer is created with it and collects both stdout and stderr (`last8k`) -/
theorem C27_src_output_buffer :
    EventScriptSrc.maxBufSize = SerfModel.EventScript.maxBufSize ∧
    once "v4, _ := circbuf.NewBuffer(8192)" EventScriptSrc.invokeEventScript = true ∧
    once "v7.Stderr = v4" EventScriptSrc.invokeEventScript = true ∧ once "v7.Stdout = v4" EventScriptSrc.invokeEventScript = true := by decide +kernel

/-- the response gate (`respond`): after `cmd.Wait()` an error returns before the response; a
response is attempted only for a query with output, with the buffer's content; and the
default limit is `responseLimit` -/
theorem C27_src_response_gate :
    hasBlock ["v13 = v7.Wait()", "v15.Stop()", "if v13 != nil {", "return v13", "}", "if v17, v18 := v3.(*serf.Query); v18 && v4.TotalWritten() > 0 {", "if v19 := v17.Respond(v4.Bytes()); v19 != nil {", "}", "}", "return nil"] EventScriptSrc.invokeEventScript = true ∧
    EventScriptSrc.defaultResponseLimit = responseLimit := by decide +kernel

/-- the environment (`envOf`): the eight SERF_* entries as templates (`{}` = an operand; fmt.Sprintf with only %s and `+` are the same template), in order, the tag loop with upper-casing and
the replacement regexp (`sanitizeChars`), name and Lamport time per event kind -/
theorem C27_src_environment :
    EventScriptSrc.envTemplates = ["SERF_EVENT={}", "SERF_SELF_NAME={}", "SERF_SELF_ROLE={}", "SERF_TAG_{}={}", "SERF_USER_EVENT={}",
      "SERF_USER_LTIME={d}", "SERF_QUERY_NAME={}", "SERF_QUERY_LTIME={d}"] ∧
    EventScriptSrc.sanitizeRegexp = "[^A-Z0-9_]" ∧
    once "v7.Env = append(os.Environ(), \"SERF_EVENT=\"+v3.EventType().String(), \"SERF_SELF_NAME=\"+v2.Name, \"SERF_SELF_ROLE=\"+v2.Tags[\"role\"], )" EventScriptSrc.invokeEventScript = true ∧
    hasBlock ["for v8, v9 := range v2.Tags {", "v10 := sanitizeTagRegexp.ReplaceAllString(strings.ToUpper(v8), \"_\")", "v11 := \"SERF_TAG_\" + v10 + \"=\" + v9", "v7.Env = append(v7.Env, v11)", "}"] EventScriptSrc.invokeEventScript = true ∧
    hasBlock ["switch v14 := v3.(type) {", "case serf.MemberEvent:", "go memberEventStdin(v0, v12, &v14)", "case serf.UserEvent:", "v7.Env = append(v7.Env, \"SERF_USER_EVENT=\"+v14.Name)", "v7.Env = append(v7.Env, fmt.Sprintf(\"SERF_USER_LTIME=%d\", v14.LTime))", "go streamPayload(v0, v12, v14.Payload)", "case *serf.Query:", "v7.Env = append(v7.Env, \"SERF_QUERY_NAME=\"+v14.Name)", "v7.Env = append(v7.Env, fmt.Sprintf(\"SERF_QUERY_LTIME=%d\", v14.LTime))", "go streamPayload(v0, v12, v14.Payload)", "default:"] EventScriptSrc.invokeEventScript = true := by
  refine ⟨rfl, rfl, ?_⟩
  decide +kernel

/-- standard input of a member event (`eventClean`, `tagPairs`, `memberLine`): the replacement
pairs, the formats, and the one statement that writes a line — name, role and the JOINED tag
list go through `eventClean` (seeded C27-a moved the escaping to the tag values) -/
theorem C27_src_member_stdin :
    EventScriptSrc.cleanPairs = [([TAB], [BSL, 116]), ([NL], [BSL, 110])] ∧
    EventScriptSrc.eventClean = ["v0 = strings.ReplaceAll(v0, \"\\t\", \"\\\\t\")", "v0 = strings.ReplaceAll(v0, \"\\n\", \"\\\\n\")", "return v0"] ∧
    EventScriptSrc.memberFormats = [[123, 125, EQ, 123, 125], [37, 115, TAB, 37, 115, TAB, 37, 115, TAB, 37, 115, NL], [COMMA]] ∧
    EventScriptSrc.memberEventStdin = ["defer v0.Close()", "for _, v2 := range v1.Members {", "var v3 []string", "for v4, v5 := range v2.Tags {", "v3 = append(v3, v4+\"=\"+v5)", "}", "v6 := strings.Join(v3, \",\")", "_, v7 := v0.Write(fmt.Appendf(nil, \"%s\\t%s\\t%s\\t%s\\n\", eventClean(v2.Name), v2.Addr.String(), eventClean(v2.Tags[\"role\"]), eventClean(v6)))", "if v7 != nil {", "return", "}", "}"] :=
  ⟨rfl, rfl, rfl, rfl⟩

/-- standard input of a user event / query (`payloadStdin`) -/
theorem C27_src_payload_stdin :
    EventScriptSrc.payloadChars = [[NL], [NL]] ∧
    EventScriptSrc.streamPayload = ["defer v1.Close()", "v3 := v2", "if len(v3) > 0 && v3[len(v3)-1] != '\\n' {", "v3 = append(v3, '\\n')", "}", "if _, v4 := v1.Write(v3); v4 != nil {", "return", "}"] :=
  ⟨rfl, rfl⟩

/-- parsing (`parseEventScript`, `parseEventFilter`, `parseEntry`): split at the first `=`, the
empty filter is `*`, entries separated by commas, the name is the rest after the PREFIX
(seeded C27-b cut it at the next colon) -/
theorem C27_src_parsing :
    EventScriptSrc.filterPrefixes = [userPfx, queryPfx] ∧ EventScriptSrc.separators = [[COMMA], [EQ, 35, 50]] ∧
    once "v3 := strings.SplitN(v0, \"=\", 2)" EventScriptSrc.parseEventScript = true ∧
    once "v4 := ParseEventFilter(v1)" EventScriptSrc.parseEventScript = true ∧
    EventScriptSrc.parseEventFilter = ["if v0 == \"\" {", "v0 = \"*\"", "}", "v1 := strings.Split(v0, \",\")", "v2 := make([]EventFilter, 0, len(v1))", "for _, v3 := range v1 {", "var v4 EventFilter", "var v5 string", "if strings.HasPrefix(v3, \"user:\") {", "v5 = v3[len(\"user:\"):]", "v3 = \"user\"", "} else if strings.HasPrefix(v3, \"query:\") {", "v5 = v3[len(\"query:\"):]", "v3 = \"query\"", "}", "v4.Event = v3", "v4.Name = v5", "v2 = append(v2, v4)", "}", "return v2"] :=
  ⟨rfl, rfl, by decide +kernel, by decide +kernel, rfl⟩

/-- matching and dispatch (`invoke`, `runsOf`) -/
theorem C27_src_matching :
    EventScriptSrc.invoke = ["if v0.Event == \"*\" {", "return true", "}", "if v1.EventType().String() != v0.Event {", "return false", "}", "if v0.Event == \"user\" && v0.Name != \"\" {", "v2, v3 := v1.(serf.UserEvent)", "if !v3 {", "return false", "}", "if v2.Name != v0.Name {", "return false", "}", "}", "if v0.Event == \"query\" && v0.Name != \"\" {", "v4, v5 := v1.(*serf.Query)", "if !v5 {", "return false", "}", "if v4.Name != v0.Name {", "return false", "}", "}", "return true"] ∧
    hasBlock ["for _, v3 := range v0.Scripts {", "if !v3.Invoke(v1) {", "continue", "}", "v4 := invokeEventScript(v0.Logger, v3.Script, v2, v1)"] EventScriptSrc.handleEvent = true :=
  ⟨rfl, by decide +kernel⟩

/-- reload (`updateScripts`, `swapIn`): UpdateScripts stores the list, HandleEvent swaps it in
when it is non-nil — NOT "non-empty" (seeded C27-d) — before dispatching, and the agent builds the
list as a non-nil slice even without handlers -/
theorem C27_src_reload :
    EventScriptSrc.updateScripts = ["v0.scriptLock.Lock()", "defer v0.scriptLock.Unlock()", "v0.newScripts = v1"] ∧
    hasBlock ["v0.scriptLock.Lock()", "if v0.newScripts != nil {", "v0.Scripts = v0.newScripts", "v0.newScripts = nil", "}", "v0.scriptLock.Unlock()"] EventScriptSrc.handleEvent = true ∧
    before "v0.scriptLock.Unlock()" "for _, v3 := range v0.Scripts {" EventScriptSrc.handleEvent = true ∧
    EventScriptSrc.configEventScripts = ["v1 := make([]EventScript, 0, len(v0.EventHandlers))", "for _, v2 := range v0.EventHandlers {", "v3 := ParseEventScript(v2)", "v1 = append(v1, v3...)", "}", "return v1"] :=
  ⟨rfl, by decide +kernel, by decide +kernel, rfl⟩

/-- the local member (`selfFor` with `cachesSelf = false`): HandleEvent binds it to `SelfFunc()`
right before the dispatch loop, for every event, and the handler has no field that could hold a
copy (seeded C27-e cached it in a field refreshed by member events only) -/
theorem C27_src_self_per_event :
    EventScriptSrc.selfSource = ["recv.SelfFunc()"] ∧
    EventScriptSrc.handlerFields = ["SelfFunc func() serf.Member", "Scripts []EventScript", "Logger *log.Logger",
      "scriptLock sync.Mutex", "newScripts []EventScript"] ∧
    hasBlock ["v2 := v0.SelfFunc()", "for _, v3 := range v0.Scripts {", "if !v3.Invoke(v1) {", "continue", "}",
      "v4 := invokeEventScript(v0.Logger, v3.Script, v2, v1)"] EventScriptSrc.handleEvent = true :=
  ⟨rfl, rfl, by decide +kernel⟩

end Src

end SerfProofs.C27
