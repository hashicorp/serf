/-
C29 — Agent log lines are delivered completely and in order.

GatedWriter: interleaving semantics (`SerfModel.LogWriters.step`) parameterised by
the lock shapes regenerated from gated_writer.go (`SerfModel.Gen.AgentSync`).
logWriter: sequential ring-buffer model; every method runs under the mutex for
its whole body (regenerated lock shapes), so interleavings are op sequences.
-/
import SerfProofs.Lemmas.GatedWriter
import SerfProofs.Lemmas.LogWriter
import SerfModel.Gen.AgentSync
namespace SerfProofs.C29
open SerfModel SerfModel.LogWriters SerfProofs.GatedWriter SerfProofs.LogWriter

/-- Source-tied obligation: `Write` and `Flush` of the GatedWriter in the current
tree run entirely under the exclusive lock. -/
theorem C29_gated_skeleton : Good Gen.AgentSync.gated := by
  constructor <;> decide +kernel

/-- Source-tied obligation: the logWriter methods hold the mutex for their whole body. -/
theorem C29_logwriter_skeleton :
    Gen.AgentSync.logWrite.wholeBodyExclusive = true ∧ Gen.AgentSync.logRegister.wholeBodyExclusive = true ∧
    Gen.AgentSync.logDeregister.wholeBodyExclusive = true := by decide +kernel

/-- **Every line exactly once, pre-gate lines first.** For any number of concurrent
writers with any programs and every schedule: before the gate opens nothing has
reached the output and the buffer holds exactly the completed lines in completion
order; once it has opened the buffer is empty and the output is exactly the
completed lines in completion order. -/
theorem C29_gated_complete_ordered (sk : Skeleton) (hg : Good sk) (progs : List (List Op)) (sched : List Nat) :
    let s := run sk (Sys.init progs) sched
    (s.flush = false → s.out = [] ∧ s.buf = s.hist) ∧ (s.flush = true → s.buf = [] ∧ s.out = s.hist) :=
  (run_inv sk hg sched (Inv.init progs)).gate

/-- In either gate state, output followed by buffer is the completion history: no line lost, none twice. -/
theorem C29_gated_exactly_once (sk : Skeleton) (hg : Good sk) (progs : List (List Op)) (sched : List Nat) :
    let s := run sk (Sys.init progs) sched
    s.out ++ s.buf = s.hist :=
  (run_inv sk hg sched (Inv.init progs)).exactly_once

/-- **Per-writer order and completeness**: the completion history restricted to a
writer is that writer's completed lines in program order, and completed plus
still-to-do lines are exactly the lines of its program. -/
theorem C29_gated_per_writer (sk : Skeleton) (hg : Good sk) (progs : List (List Op)) (sched : List Nat)
    (t : Nat) (th : Thr) (hth : (run sk (Sys.init progs) sched).threads[t]? = some th) :
    (run sk (Sys.init progs) sched).hist.filter (fun l => l.tid == t) = th.done ∧
    th.done ++ writesOf t th.todo = writesOf t (progs.getD t []) :=
  (run_inv sk hg sched (Inv.init progs)).perThread t th hth

theorem C29_gated_current_tree (progs : List (List Op)) (sched : List Nat) :
    let s := run Gen.AgentSync.gated (Sys.init progs) sched
    s.out ++ s.buf = s.hist ∧ (s.flush = true → s.buf = []) :=
  ⟨C29_gated_exactly_once _ C29_gated_skeleton progs sched,
   fun h => ((C29_gated_complete_ordered _ C29_gated_skeleton progs sched).2 h).1⟩

/-- The lock shapes of serf before bd5c4a2: Write under RLock; Flush unlocks before replaying. -/
def oldSkeleton : Skeleton :=
  { write := { lockCall := "RLock", deferred := true, earlyUnlock := false },
    flush := { lockCall := "Lock", deferred := false, earlyUnlock := true } }

/-- Regression witness 1: under the old skeleton two writers lose a line. -/
theorem C29_old_skeleton_loses_line :
    let s := run oldSkeleton (Sys.init [[.write "a"], [.write "b"]]) [0, 1, 0, 1]
    s.hist.length = 2 ∧ (s.out ++ s.buf).length = 1 := by decide +kernel

/-- Regression witness 2: under the old skeleton a post-gate line overtakes buffered ones. -/
theorem C29_old_skeleton_overtakes :
    let s := run oldSkeleton (Sys.init [[.write "a", .write "b", .flush], [.write "late"]])
      [0, 0, 0, 0, 0, 1, 1, 0, 0, 0]
    s.out.map (·.text) = ["late", "a", "b"] := by decide +kernel

/-- **Monitor backlog.** A handler registered after the lines `pre` (any lines, empty
ones included: the ring knows from its `full` flag that it has wrapped, not from an empty oldest slot) and followed by the
lines `post` has received exactly the last `min |pre| cap` lines of `pre`, oldest
first, then every later line once, in order. -/
theorem C29_monitor_backlog (cap : Nat) (hc : 0 < cap) (pre post : List String) (h : Nat) :
    alookup (writes ((writes (LW.new cap) pre).register h) post).handlers h
      = some (pre.drop (pre.length - cap) ++ post) := by
  have hi : RingInv cap (writes (LW.new cap) pre) ([] ++ pre) := (RingInv.new cap hc).writes hc pre
  have hnew : 0 < (LW.new cap).logs.length := by rw [LW.new, List.length_replicate]; exact hc
  obtain ⟨hlen, hnoh⟩ := writes_handlers pre (LW.new cap) hnew
  -- no handler yet: the registration adds `h` with the backlog, and the later writes append to it
  have hreg : (writes (LW.new cap) pre).register h =
      { writes (LW.new cap) pre with handlers := [(h, backlog (writes (LW.new cap) pre))] } := by
    rw [LW.register, hnoh]; rfl
  rw [(writes_handlers post _ (by rw [hreg]; exact hlen ▸ hnew)).2, hreg, backlog_eq hi]
  simp [alookup]

-- An empty line as oldest entry of a wrapped ring of 2 (the input of serf's repair c8cc9c2): replayed in full.
example : alookup ((writes (LW.new 2) ["a", "", "b"]).register 1).handlers 1 = some ["", "b"] := by decide +kernel

example : alookup (writes ((writes (LW.new 3) ["1", "2", "3", "4", "5"]).register 7) ["6"]).handlers 7
    = some ["3", "4", "5", "6"] := by decide +kernel

/-- **A monitor attaching while a line is logged.** `RegisterHandler` and `Write` each hold the writer's lock over
their whole body (`C29_logwriter_skeleton`, regenerated from the source), so a concurrent attach and write are
serialised.  In either order the handler ends with some suffix of the older lines followed by the new line: the
new line never overtakes a buffered one. -/
theorem C29_attach_race (cap : Nat) (hc : 0 < cap) (pre : List String) (t : String) (h : Nat) :
    (∃ k, alookup (((writes (LW.new cap) pre).register h).write t).handlers h = some (pre.drop k ++ [t])) ∧
    (∃ k, alookup (((writes (LW.new cap) pre).write t).register h).handlers h = some (pre.drop k ++ [t])) := by
  constructor
  · exact ⟨pre.length - cap, C29_monitor_backlog cap hc pre [t] h⟩
  · refine ⟨pre.length + 1 - cap, ?_⟩
    have hw : (writes (LW.new cap) pre).write t = writes (LW.new cap) (pre ++ [t]) := by
      simp [writes, List.foldl_append]
    rw [hw]
    refine (C29_monitor_backlog cap hc (pre ++ [t]) [] h).trans ?_
    rw [List.append_nil, List.length_append, List.length_singleton, List.drop_append_of_le_length (by omega)]

-- attach race, concrete: ring of 2 holding three lines, "n" logged while monitor 1 attaches
example : alookup (((writes (LW.new 2) ["a", "b", "c"]).register 1).write "n").handlers 1 = some ["b", "c", "n"]
    ∧ alookup (((writes (LW.new 2) ["a", "b", "c"]).write "n").register 1).handlers 1 = some ["c", "n"] := by decide +kernel

/-! ### Any number of monitors, any history of writes, attaches and detaches

The ring-buffer writer refines the obvious specification: the specification remembers the whole log history
and, per attached monitor, the lines it has received. -/

inductive LOp where
  | write (l : String)
  | register (h : Nat)
  | deregister (h : Nat)
  deriving DecidableEq, Repr

def LW.apply (w : LW) : LOp → LW
  | .write l => w.write l
  | .register h => w.register h
  | .deregister h => w.deregister h

structure MonSpec where
  hist : List String := []
  mons : List (Nat × List String) := []
  deriving DecidableEq, Repr

/-- The specification: an attach hands over the last `cap` lines of the whole history (attaching twice is
a no-op), every later line is appended to every attached monitor, a detach forgets the monitor. -/
def MonSpec.apply (cap : Nat) (s : MonSpec) : LOp → MonSpec
  | .write l => { hist := s.hist ++ [l], mons := s.mons.map fun p => (p.1, p.2 ++ [l]) }
  | .register h => if (alookup s.mons h).isSome then s else
      { s with mons := s.mons ++ [(h, s.hist.drop (s.hist.length - cap))] }
  | .deregister h => { s with mons := aerase s.mons h }

theorem monitors_step (cap : Nat) (hc : 0 < cap) (w : LW) (s : MonSpec) (hi : RingInv cap w s.hist)
    (hh : w.handlers = s.mons) (op : LOp) :
    RingInv cap (LW.apply w op) (s.apply cap op).hist ∧ (LW.apply w op).handlers = (s.apply cap op).mons := by
  cases op with
  | write l =>
    refine ⟨hi.write hc l, ?_⟩
    have hne : w.logs.length ≠ 0 := by rw [hi.1]; omega
    simp [LW.apply, MonSpec.apply, LW.write, hne, hh]
  | register h =>
    have hb := backlog_eq hi
    unfold backlog at hb
    simp only [LW.apply, MonSpec.apply, LW.register, hh]
    by_cases hp : (alookup s.mons h).isSome
    · simp only [hp, ↓reduceIte]; exact ⟨hi, hh⟩
    · simp only [hp, Bool.false_eq_true, ↓reduceIte]
      exact ⟨hi.handlers _, by rw [hb]⟩
  | deregister h =>
    simp only [LW.apply, MonSpec.apply, LW.deregister, hh]
    exact ⟨hi.handlers _, trivial⟩

/-- **Refinement, every history.** For every ring size, every sequence of log writes, monitor attaches and
detaches (any number of monitors, attached at any time, re-attached after a detach): each monitor has received
exactly what the specification says — the last `min cap |history|` lines at its attach, oldest first, then every
later line exactly once in order, and nothing after its detach. -/
theorem C29_monitors_refine (cap : Nat) (hc : 0 < cap) (ops : List LOp) :
    (ops.foldl LW.apply (LW.new cap)).handlers = (ops.foldl (MonSpec.apply cap) {}).mons := by
  suffices ∀ (w : LW) (s : MonSpec), RingInv cap w s.hist → w.handlers = s.mons →
      (ops.foldl LW.apply w).handlers = (ops.foldl (MonSpec.apply cap) s).mons from
    this _ _ (RingInv.new cap hc) rfl
  induction ops with
  | nil => intro w s _ hh; simpa using hh
  | cons op ops ih =>
    intro w s hi hh
    obtain ⟨hi', hh'⟩ := monitors_step cap hc w s hi hh op
    exact ih _ _ hi' hh'

-- two monitors, ring of 2: monitor 1 attaches after "a","b","c", monitor 2 after "d"; monitor 1 detaches, "e" is logged
example : (([.write "a", .write "b", .write "c", .register 1, .write "d", .register 2, .deregister 1, .write "e"] : List LOp).foldl
    LW.apply (LW.new 2)).handlers = [(2, ["c", "d", "e"])] := by decide +kernel

end SerfProofs.C29
