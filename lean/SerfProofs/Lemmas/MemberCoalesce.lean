/-
`memberEventCoalescer` (serf/coalesce_member.go).  The pending map holds, per member, the last event
received since the previous flush (`lastFor`, `fold_coalesce_latest`).  Its entries are of different
members (`LatestOK`), so `Flush` judges each against `lastEvents` as it was before the loop
(`flushLoop_out`), and leaves in `lastEvents[n]` the kind of the pending event for `n`, sent or
suppressed (`flush_lastEvents_pending`).
-/
import SerfModel.Model.MemberCoalesce
import SerfProofs.Lemmas.Assoc
namespace SerfProofs.MemberCoalesce
open SerfModel SerfModel.MemberCoalesce

/-- The latest event received for member `n` in a list of events. -/
def lastFor (q : List MEv) (n : String) : Option MEv := (q.filter (·.name == n)).getLast?

theorem lastFor_nil (n : String) : lastFor [] n = none := rfl

theorem lastFor_append (a b : List MEv) (n : String) :
    lastFor (a ++ b) n = (lastFor b n <|> lastFor a n) := by
  unfold lastFor
  rw [List.filter_append, List.getLast?_append]
  cases (List.filter (fun x => x.name == n) b).getLast? <;> simp

theorem lastFor_singleton (e : MEv) (n : String) : lastFor [e] n = if e.name == n then some e else none := by
  unfold lastFor
  by_cases h : e.name == n <;> simp [h]

theorem lastFor_concat (q : List MEv) (e : MEv) (n : String) :
    lastFor (q ++ [e]) n = if e.name == n then some e else lastFor q n := by
  rw [lastFor_append, lastFor_singleton]
  by_cases h : e.name == n <;> simp [h]

theorem lastFor_name {q : List MEv} {n : String} {e : MEv} (h : lastFor q n = some e) : e.name = n := by
  have := (List.mem_filter.mp (List.mem_of_getLast? h)).2
  simpa using this

theorem lastFor_mem {q : List MEv} {n : String} {e : MEv} (h : lastFor q n = some e) : e ∈ q :=
  (List.mem_filter.mp (List.mem_of_getLast? h)).1

theorem lastFor_none_iff (q : List MEv) (n : String) : lastFor q n = none ↔ n ∉ q.map (·.name) := by
  unfold lastFor
  simp

/-- Invariant of `latestEvents`: keyed by the event's own name, no duplicate keys. -/
def LatestOK (l : List (String × MEv)) : Prop := (akeys l).Nodup ∧ ∀ p ∈ l, p.1 = p.2.name

theorem LatestOK.nil : LatestOK [] := ⟨by simp [akeys], by simp⟩

theorem LatestOK.cons {k : String} {e : MEv} {rest : List (String × MEv)} (h : LatestOK ((k, e) :: rest)) :
    k = e.name ∧ alookup rest k = none ∧ LatestOK rest := by
  have hnd : k ∉ akeys rest ∧ (akeys rest).Nodup := List.nodup_cons.mp h.1
  exact ⟨h.2 (k, e) List.mem_cons_self, (alookup_eq_none_iff rest k).mpr hnd.1,
    hnd.2, fun p hp => h.2 p (List.mem_cons_of_mem _ hp)⟩

theorem LatestOK.name {l : List (String × MEv)} (h : LatestOK l) {n : String} {e : MEv}
    (he : alookup l n = some e) : e.name = n :=
  (h.2 _ (mem_of_alookup he)).symm

theorem LatestOK.insert {l : List (String × MEv)} (h : LatestOK l) (e : MEv) : LatestOK (ainsert l e.name e) := by
  refine ⟨akeys_ainsert_nodup h.1, fun ⟨k, v⟩ hp => ?_⟩
  by_cases hk : k = e.name
  · subst hk; rw [mem_ainsert_self hp]
  · exact h.2 _ (mem_ainsert_ne hk hp)

theorem alookup_coalesce (c : MC) (e : MEv) (n : String) :
    alookup (coalesce c e).latest n = if e.name == n then some e else alookup c.latest n :=
  alookup_ainsert_flip _ _ _ _

theorem fold_coalesce_latest (q : List MEv) : ∀ (c : MC), LatestOK c.latest →
    LatestOK (q.foldl coalesce c).latest ∧ (q.foldl coalesce c).lastEvents = c.lastEvents ∧
    ∀ n, alookup (q.foldl coalesce c).latest n = (lastFor q n <|> alookup c.latest n) := by
  induction q with
  | nil => intro c h; exact ⟨h, rfl, fun n => by simp [lastFor_nil]⟩
  | cons e q ih =>
    intro c h
    obtain ⟨h1, h2, h3⟩ := ih (coalesce c e) (h.insert e)
    refine ⟨h1, h2, fun n => ?_⟩
    rw [List.foldl_cons, h3, alookup_coalesce, ← List.singleton_append, lastFor_append, lastFor_singleton]
    cases lastFor q n <;> cases e.name == n <;> rfl

theorem flushLoop_cons (k : String) (e : MEv) (rest : List (String × MEv)) (last : List (String × Kind)) (out : List MEv) :
    flushLoop ((k, e) :: rest) last out =
      if suppressed last e then flushLoop rest last out else flushLoop rest (ainsert last e.name e.kind) (e :: out) := rfl

/-- Suppression is judged by `lastEvents` as it was before the loop: the pending events are of
different members. -/
theorem flushLoop_out (l : List (String × MEv)) (last : List (String × Kind)) (out : List MEv) (h : LatestOK l) :
    (flushLoop l last out).2 = out.reverse ++ (l.map (·.2)).filter (fun e => !suppressed last e) := by
  fun_induction flushLoop l last out with
  | case1 => simp
  | case2 k e rest last out hs ih => simp [hs, ih h.cons.2.2]
  | case3 k e rest last out hs ih =>
    obtain ⟨hk, hnone, hrest⟩ := h.cons
    simp only [hs, ↓reduceIte, ih hrest, List.reverse_cons, List.append_assoc,
      List.map_cons, List.filter_cons, Bool.not_false, List.singleton_append]
    congr 2
    apply List.filter_congr
    intro r hr
    obtain ⟨p, hp, rfl⟩ := List.mem_map.mp hr
    have hne : p.2.name ≠ e.name := by
      intro heq
      rw [← hrest.2 p hp, ← hk] at heq
      rw [← heq, alookup_eq_none_iff] at hnone
      exact hnone (List.mem_map_of_mem (f := (·.1)) hp)
    simp [suppressed, alookup_ainsert_ne hne]

/-- Invariant of the loop of `Flush`: `lastEvents[n]` is the kind of the last event put out for `n`,
or what it was at the start (`a₀`) while there is none. -/
theorem flushLoop_last (l : List (String × MEv)) (n : String) (a₀ : Option Kind)
    (last : List (String × Kind)) (out : List MEv)
    (h : alookup last n = ((lastFor out.reverse n).map (·.kind) <|> a₀)) :
    alookup (flushLoop l last out).1 n = ((lastFor (flushLoop l last out).2 n).map (·.kind) <|> a₀) := by
  fun_induction flushLoop l last out with
  | case1 => exact h
  | case2 _ e rest last out _ ih => exact ih h
  | case3 _ e rest last out _ ih =>
    apply ih
    rw [List.reverse_cons, lastFor_concat, alookup_ainsert_flip]
    split
    · rfl
    · exact h

theorem flush_latest (c : MC) : (flush c).1.latest = [] := rfl

theorem flush_out (c : MC) (h : LatestOK c.latest) :
    (flush c).2 = (c.latest.map (·.2)).filter (fun e => !suppressed c.lastEvents e) := by
  simp [flush, flushLoop_out _ _ _ h]

theorem flush_lastEvents (c : MC) (n : String) :
    alookup (flush c).1.lastEvents n = ((lastFor (flush c).2 n).map (·.kind) <|> alookup c.lastEvents n) :=
  flushLoop_last c.latest n _ c.lastEvents [] (by simp [lastFor_nil])

theorem values_filter_name (l : List (String × MEv)) (h : LatestOK l) (n : String) :
    (l.map (·.2)).filter (·.name == n) = (alookup l n).toList := by
  induction l with
  | nil => rfl
  | cons p rest ih =>
    obtain ⟨k, e⟩ := p
    obtain ⟨hk, hnone, hrest⟩ := h.cons
    simp only [List.map_cons, List.filter_cons, alookup_cons, ih hrest, ← hk]
    by_cases hkn : k = n
    · subst hkn; simp [hnone]
    · simp [hkn]

theorem flush_filter_name (c : MC) (h : LatestOK c.latest) (n : String) :
    (flush c).2.filter (·.name == n) = (alookup c.latest n).toList.filter (fun e => !suppressed c.lastEvents e) := by
  rw [flush_out c h, List.filter_filter, ← values_filter_name _ h, List.filter_filter]
  exact List.filter_congr fun x _ => Bool.and_comm _ _

theorem suppressed_kind {last : List (String × Kind)} {e : MEv} (h : suppressed last e = true) :
    alookup last e.name = some e.kind := by
  simp only [suppressed, Bool.and_eq_true, beq_iff_eq] at h
  exact h.1

/-- `Flush` records the kind of every pending event, sent or not: a suppressed one has the kind
that is recorded already. -/
theorem flush_lastEvents_pending (c : MC) (h : LatestOK c.latest) (n : String) :
    alookup (flush c).1.lastEvents n = ((alookup c.latest n).map (·.kind) <|> alookup c.lastEvents n) := by
  rw [flush_lastEvents, lastFor, flush_filter_name c h]
  cases he : alookup c.latest n with
  | none => rfl
  | some e =>
    by_cases hs : suppressed c.lastEvents e
    · have := suppressed_kind hs
      rw [h.name he] at this
      simp [hs, this]
    · simp [hs]

end SerfProofs.MemberCoalesce
