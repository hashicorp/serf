/-
The writer refines the log.  The snapshot invariant `Inv`: replaying the logical file
(what is on disk ++ what the bufio writer still holds) yields the in-memory state.  An
append adds its bytes to the logical file, a flush moves the buffer to the disk, a
compaction replaces the file by the lines it writes; so the invariant follows from the
log's (Lemmas/SnapshotLog.lean) for every threshold and flush timing.
-/
import SerfProofs.Lemmas.SnapshotLog
import SerfProofs.Lemmas.Ite
namespace SerfProofs.Snapshot
open SerfModel SerfModel.Snapshot

theorem bufWrite_concat (buf s : Bytes) : (bufWrite buf s).2.flatten ++ (bufWrite buf s).1 = buf ++ s := by
  unfold bufWrite
  simp only
  split
  · simp
  · split
    · rename_i h; simp [List.eq_nil_of_length_eq_zero h]
    · split <;> simp [List.append_assoc]

theorem bufWriteAll_concat (lines : List Bytes) : ∀ buf,
    (bufWriteAll buf lines).2.flatten ++ (bufWriteAll buf lines).1 = buf ++ lines.flatten := by
  induction lines with
  | nil => intro buf; simp [bufWriteAll]
  | cons l ls ih =>
    intro buf
    simp only [bufWriteAll, List.flatten_append, List.append_assoc, ih, List.flatten_cons]
    rw [← List.append_assoc, bufWrite_concat, List.append_assoc]

theorem applyAll_append (fs : FS) (a b : List FsOp) : fs.applyAll (a ++ b) = (fs.applyAll a).applyAll b := by
  simp [FS.applyAll, List.foldl_append]

theorem applyAll_cons (fs : FS) (a : FsOp) (b : List FsOp) : fs.applyAll (a :: b) = (fs.apply a).applyAll b := rfl
theorem applyAll_nil (fs : FS) : fs.applyAll [] = fs := rfl

theorem get_set (fs : FS) (p : Path) (v : Option Bytes) : (fs.set p v).get p = v := by cases p <;> rfl
theorem set_set (fs : FS) (p : Path) (v w : Option Bytes) : (fs.set p v).set p w = fs.set p w := by cases p <;> rfl
theorem set_get (fs : FS) (p : Path) : fs.set p (fs.get p) = fs := by cases p <;> rfl

theorem applyAll_writes (p : Path) (ws : List Bytes) : ∀ (fs : FS) (d : Bytes), fs.get p = some d →
    fs.applyAll (ws.map (.write p)) = fs.set p (some (d ++ ws.flatten)) := by
  induction ws with
  | nil => intro fs d h; rw [List.flatten_nil, List.append_nil, ← h, set_get]; rfl
  | cons w ws ih =>
    intro fs d h
    have : fs.apply (.write p w) = fs.set p (some (d ++ w)) := by simp only [FS.apply, h]
    rw [List.map_cons, applyAll_cons, this, ih _ (d ++ w) (get_set _ _ _), set_set, List.flatten_cons, List.append_assoc]

theorem applyAll_flushOps (fs : FS) (p : Path) (b : Bytes) :
    fs.applyAll (flushOps p b) = if b = [] then fs else fs.applyAll [.write p b] := by
  unfold flushOps
  split <;> rfl

theorem applyAll_flush (p : Path) (fs : FS) (d b : Bytes) (h : fs.get p = some d) :
    fs.applyAll (flushOps p b) = fs.set p (some (d ++ b)) := by
  rw [applyAll_flushOps]
  split
  · rename_i hb; rw [hb, List.append_nil, ← h, set_get]
  · simp only [FS.applyAll, List.foldl, FS.apply, h]

def tmpOnly : FsOp → Bool
  | .openTrunc .tmp => true
  | .write .tmp _ => true
  | .flush .tmp => true
  | .sync .tmp => true
  | .close .tmp => true
  | _ => false

theorem apply_tmpOnly_main (fs : FS) (o : FsOp) (h : tmpOnly o = true) : (fs.apply o).main = fs.main := by
  cases o with
  | openTrunc p =>
    cases p with
    | main => cases h
    | tmp => rfl
  | write p d =>
    cases p with
    | main => cases h
    | tmp =>
      show (match fs.get .tmp with | some c => fs.set .tmp (some (c ++ d)) | none => fs).main = fs.main
      cases fs.get .tmp <;> rfl
  | flush p => rfl
  | sync p => rfl
  | close p => rfl
  | openAppend p => simp [tmpOnly] at h
  | remove p => simp [tmpOnly] at h
  | rename a b => simp [tmpOnly] at h
  | truncate p n => simp [tmpOnly] at h

theorem applyAll_tmpOnly_main (ops : List FsOp) (h : ∀ o ∈ ops, tmpOnly o = true) (fs : FS) :
    (fs.applyAll ops).main = fs.main :=
  List.foldlRecOn (motive := fun g : FS => g.main = fs.main) ops FS.apply rfl fun g hg o ho =>
    (apply_tmpOnly_main g o (h o ho)).trans hg

theorem apply_write_main_tmp (fs : FS) (b : Bytes) : (fs.apply (.write .main b)).tmp = fs.tmp := by
  simp only [FS.apply, FS.get]; split <;> rfl

/-- writes to the snapshot file and calls without file-system effect -/
def mainAppendOnly : FsOp → Bool
  | .write .main _ => true
  | .flush _ => true
  | .sync _ => true
  | .close _ => true
  | _ => false

/-- the bytes the operation appends to the snapshot file -/
def payload : FsOp → Bytes
  | .write .main w => w
  | _ => []

theorem apply_mainAppendOnly (fs : FS) (o : FsOp) (h : mainAppendOnly o = true) (d : Bytes) (hd : fs.main = some d) :
    (fs.apply o).main = some (d ++ payload o) := by
  cases o with
  | write p w => cases p <;> simp_all [mainAppendOnly, payload, FS.apply, FS.get, FS.set]
  | flush p => simp [payload, FS.apply, hd]
  | sync p => simp [payload, FS.apply, hd]
  | close p => simp [payload, FS.apply, hd]
  | openAppend p => simp [mainAppendOnly] at h
  | openTrunc p => simp [mainAppendOnly] at h
  | remove p => simp [mainAppendOnly] at h
  | rename a b => simp [mainAppendOnly] at h
  | truncate p n => simp [mainAppendOnly] at h

theorem applyAll_mainAppendOnly (ops : List FsOp) (h : ∀ o ∈ ops, mainAppendOnly o = true) : ∀ (fs : FS) (d : Bytes),
    fs.main = some d → (fs.applyAll ops).main = some (d ++ ops.flatMap payload) := by
  induction ops with
  | nil => intro fs d hd; simp [FS.applyAll, hd]
  | cons o t ih =>
    intro fs d hd
    rw [applyAll_cons, ih (fun x hx => h x (List.mem_cons_of_mem _ hx)) (fs.apply o) _
      (apply_mainAppendOnly fs o (h o List.mem_cons_self) d hd)]
    simp [List.append_assoc]

theorem payload_writes (ws : List Bytes) : (ws.map (FsOp.write .main)).flatMap payload = ws.flatten := by
  induction ws with
  | nil => rfl
  | cons w ws ih => simp [payload, ih]

theorem payload_flushOps (b : Bytes) : (flushOps .main b).flatMap payload = b := by
  unfold flushOps
  split
  · rename_i h; simp [payload, h]
  · simp [payload]

theorem mainAppendOnly_flushOps (b : Bytes) : ∀ o ∈ flushOps .main b, mainAppendOnly o = true := by
  intro o ho
  unfold flushOps at ho
  split at ho <;> simp at ho <;> rcases ho with rfl | rfl <;> rfl

/-- the clocks are part of the invariant until a leave that replay will honour -/
def Judged (s : Snap) : Prop := s.leaving = false ∨ s.rejoin = true

def Inv (s : Snap) (fs : FS) : Prop :=
  ∃ d, fs.main = some d ∧ InvCore s.rejoin (Judged s) s.mem (d ++ s.buf)

def SameMem (s s' : Snap) : Prop := s'.mem = s.mem ∧ s'.rejoin = s.rejoin ∧ s'.leaving = s.leaving

theorem SameMem.trans {a b c : Snap} (h1 : SameMem a b) (h2 : SameMem b c) : SameMem a c :=
  ⟨h2.1.trans h1.1, h2.2.1.trans h1.2.1, h2.2.2.trans h1.2.2⟩

theorem SameMem.alive {a b : Snap} (h : SameMem a b) : b.alive = a.alive := congrArg RecState.alive h.1

theorem Inv.core {s : Snap} {fs : FS} (h : Inv s fs) {d : Bytes} (hd : fs.main = some d) :
    InvCore s.rejoin (Judged s) s.mem (d ++ s.buf) := by
  obtain ⟨d0, hd0, hc⟩ := h
  rw [hd] at hd0
  cases hd0
  exact hc

theorem Inv.wf {s : Snap} {fs : FS} (h : Inv s fs) : WFRec s.mem := by
  obtain ⟨d, _, _, hwf, _, _⟩ := h; exact hwf

theorem appendBytes_same (s : Snap) (l : Bytes) : SameMem s (appendBytes s l).1 :=
  ite_prop (fun r : Snap × List FsOp => SameMem s r.1) (fun _ => ⟨rfl, rfl, rfl⟩) fun _ => ⟨rfl, rfl, rfl⟩

theorem compact_same (ord : Order) (s : Snap) : SameMem s (compact ord s).1 := ⟨rfl, rfl, rfl⟩

theorem appendLine_same (ord : Order) (s : Snap) (l : Bytes) : SameMem s (appendLine ord s l).1 :=
  ite_prop (fun r : Snap × List FsOp => SameMem s r.1) (fun _ => (appendBytes_same s l).trans (compact_same ord _)) fun _ =>
    appendBytes_same s l

theorem appendLine_of_gt (ord : Order) (s : Snap) (l : Bytes) (h : (appendBytes s l).1.offset > maxSize (appendBytes s l).1) :
    appendLine ord s l = ((compact ord (appendBytes s l).1).1, (appendBytes s l).2 ++ (compact ord (appendBytes s l).1).2) := by
  unfold appendLine; simp only [h, ↓reduceIte]

theorem appendLine_of_le (ord : Order) (s : Snap) (l : Bytes) (h : ¬ (appendBytes s l).1.offset > maxSize (appendBytes s l).1) :
    appendLine ord s l = appendBytes s l := by
  unfold appendLine; simp only [h, ↓reduceIte]

theorem appendBytes_ops (s : Snap) (l : Bytes) :
    (∀ o ∈ (appendBytes s l).2, mainAppendOnly o = true) ∧
    (appendBytes s l).2.flatMap payload ++ (appendBytes s l).1.buf = s.buf ++ l := by
  have hc := bufWrite_concat s.buf l
  unfold appendBytes
  split
  · constructor
    · intro o ho
      rcases List.mem_append.mp ho with ho | ho
      · obtain ⟨w, _, rfl⟩ := List.mem_map.mp ho; rfl
      · exact mainAppendOnly_flushOps _ o ho
    · rw [List.flatMap_append, payload_writes, payload_flushOps, List.append_nil, hc]
  · constructor
    · intro o ho
      obtain ⟨w, _, rfl⟩ := List.mem_map.mp ho; rfl
    · rw [payload_writes, hc]

theorem appendBytes_spec (s : Snap) (l : Bytes) (fs : FS) (d : Bytes) (hd : fs.main = some d) :
    ∃ d', (fs.applyAll (appendBytes s l).2).main = some d' ∧
      d' ++ (appendBytes s l).1.buf = d ++ s.buf ++ l := by
  obtain ⟨hm, hc⟩ := appendBytes_ops s l
  exact ⟨_, applyAll_mainAppendOnly _ hm fs d hd, by rw [List.append_assoc, hc, List.append_assoc]⟩

/-- the writes of an append: all that matters is what the logical file becomes -/
theorem appendBytes_inv (s : Snap) (fs : FS) (d l : Bytes) (hd : fs.main = some d)
    (h : InvCore s.rejoin (Judged s) s.mem (d ++ s.buf ++ l)) :
    Inv (appendBytes s l).1 (fs.applyAll (appendBytes s l).2) := by
  obtain ⟨d', hd', hcat⟩ := appendBytes_spec s l fs d hd
  obtain ⟨hm, hr, hl⟩ := appendBytes_same s l
  refine ⟨d', hd', ?_⟩
  unfold Judged
  rw [hcat, hm, hr, hl]
  exact h

/-- the temp-file phase of `compact` -/
def compactTmpOps (ord : Order) (s : Snap) : List FsOp :=
  [.openTrunc .tmp] ++ (bufWriteAll [] (compactLines ord s)).2.map (.write .tmp) ++
    flushOps .tmp (bufWriteAll [] (compactLines ord s)).1 ++ [.sync .tmp, .close .tmp]

theorem compact_ops_eq (ord : Order) (s : Snap) :
    (compact ord s).2 = compactTmpOps ord s ++
      (flushOps .main s.buf ++ [.close .main, .remove .main, .rename .tmp .main, .openAppend .main]) := by
  simp [compact, compactTmpOps, List.append_assoc]

theorem compactTmpOps_tmpOnly (ord : Order) (s : Snap) : ∀ o ∈ compactTmpOps ord s, tmpOnly o = true := by
  intro o ho
  simp only [compactTmpOps, List.mem_append, List.mem_cons, List.not_mem_nil, or_false, List.mem_map] at ho
  rcases ho with ((rfl | ⟨w, _, rfl⟩) | ho) | rfl | rfl
  · rfl
  · rfl
  · unfold flushOps at ho; split at ho <;> simp at ho <;> rcases ho with rfl | rfl <;> rfl
  · rfl
  · rfl

theorem compactTmpOps_result (ord : Order) (s : Snap) (fs : FS) :
    (fs.applyAll (compactTmpOps ord s)).tmp = some (compactLines ord s).flatten ∧
    (fs.applyAll (compactTmpOps ord s)).main = fs.main := by
  refine ⟨?_, applyAll_tmpOnly_main _ (compactTmpOps_tmpOnly ord s) fs⟩
  have hc := bufWriteAll_concat (compactLines ord s) []
  simp only [compactTmpOps]
  rw [applyAll_append, applyAll_append, applyAll_append]
  have h1 : fs.applyAll [.openTrunc .tmp] = fs.set .tmp (some []) := rfl
  rw [h1, applyAll_writes .tmp _ _ [] rfl, applyAll_flush .tmp _ ([] ++ (bufWriteAll [] (compactLines ord s)).2.flatten) _ rfl]
  simp only [List.nil_append] at hc ⊢
  rw [hc]
  rfl

/-- remove(path), rename(path.compact, path), reopen: between the first two only `path.compact` is there (the window
of C11); afterwards it is the snapshot, whatever `path` held before -/
theorem swap_fs_main {g : FS} {new : Bytes} (ht : g.tmp = some new) :
    g.applyAll [.remove .main, .rename .tmp .main, .openAppend .main] = { main := some new, tmp := none } := by
  have h1 : g.apply (.remove .main) = { main := none, tmp := some new } := ht ▸ rfl
  show ((g.apply (.remove .main)).apply (.rename .tmp .main)).apply (.openAppend .main) = _
  rw [h1]
  rfl

theorem compact_result_fs (ord : Order) (s : Snap) (fs : FS) :
    fs.applyAll (compact ord s).2 = { main := some (compactLines ord s).flatten, tmp := none } := by
  rw [compact_ops_eq, applyAll_append]
  obtain ⟨ht, _⟩ := compactTmpOps_result ord s fs
  generalize fs.applyAll (compactTmpOps ord s) = g at ht ⊢
  rw [applyAll_append]
  have h2 : (g.applyAll (flushOps .main s.buf)).tmp = some (compactLines ord s).flatten := by
    rw [applyAll_flushOps]
    exact ite_prop (fun x : FS => x.tmp = _) (fun _ => ht) fun _ => (apply_write_main_tmp g _).trans ht
  generalize g.applyAll (flushOps .main s.buf) = g2 at h2 ⊢
  exact swap_fs_main h2

theorem compact_inv (ord : Order) (hord : PermOrder ord) (s : Snap) (fs : FS) (hwf : WFRec s.mem) :
    Inv (compact ord s).1 (fs.applyAll (compact ord s).2) := by
  refine ⟨(compactLines ord s).flatten, by rw [compact_result_fs], ?_⟩
  show InvCore s.rejoin _ s.mem ((compactLines ord s).flatten ++ [])
  rw [List.append_nil]
  exact InvCore.compacted ord hord s hwf _

theorem appendLine_inv (ord : Order) (hord : PermOrder ord) (s : Snap) (fs : FS) (d l : Bytes) (hd : fs.main = some d)
    (h : InvCore s.rejoin (Judged s) s.mem (d ++ s.buf ++ l)) :
    Inv (appendLine ord s l).1 (fs.applyAll (appendLine ord s l).2) := by
  have hb := appendBytes_inv s fs d l hd h
  refine ite_prop (fun r : Snap × List FsOp => Inv r.1 (fs.applyAll r.2)) (fun _ => ?_) fun _ => hb
  rw [applyAll_append]
  exact compact_inv ord hord _ _ hb.wf

theorem appendLine_line_inv (ord : Order) (hord : PermOrder ord) (s : Snap) (fs : FS) (d : Bytes) (ln : Line)
    (hd : fs.main = some d) (hnl : endsNL (d ++ s.buf) = true) (hwf : WFRec s.mem) (hln : WFLine ln)
    (hA : MapEq (applyLine s.rejoin (replay s.rejoin (d ++ s.buf)) ln).alive s.mem.alive)
    (hC : Judged s → ClocksEq (applyLine s.rejoin (replay s.rejoin (d ++ s.buf)) ln) s.mem) :
    Inv (appendLine ord s (printLine ln)).1 (fs.applyAll (appendLine ord s (printLine ln)).2) := by
  refine appendLine_inv ord hord s fs d _ hd ⟨endsNL_append hnl (endsNL_printLine ln), hwf, ?_⟩
  rw [replay_append_line _ _ _ hnl hln]
  exact ⟨hA, hC⟩

theorem flush_inv (s : Snap) (fs : FS) (h : Inv s fs) (tail : List FsOp)
    (htail : ∀ g : FS, g.applyAll tail = g) :
    Inv { s with buf := [] } (fs.applyAll (flushOps .main s.buf ++ tail)) := by
  obtain ⟨d, hd, hc⟩ := h
  refine ⟨d ++ s.buf, ?_, ?_⟩
  · rw [applyAll_append, htail, applyAll_flush .main fs d s.buf hd]; rfl
  · show InvCore s.rejoin (Judged s) s.mem (d ++ s.buf ++ [])
    rw [List.append_nil]; exact hc

/-- after `r`: flush the buffer, then the operations `tail` (the sync of a leave; sync and close of the shutdown) -/
def flushed (r : Snap × List FsOp) (tail : List FsOp) : Snap × List FsOp :=
  ({ r.1 with buf := [] }, r.2 ++ flushOps .main r.1.buf ++ tail)

theorem flushed_inv (r : Snap × List FsOp) (fs : FS) (h : Inv r.1 (fs.applyAll r.2)) (tail : List FsOp)
    (htail : ∀ g : FS, g.applyAll tail = g) : Inv (flushed r tail).1 (fs.applyAll (flushed r tail).2) := by
  unfold flushed
  rw [List.append_assoc, applyAll_append]
  exact flush_inv r.1 _ h tail htail

theorem flushed_same (r : Snap × List FsOp) (tail : List FsOp) : SameMem r.1 (flushed r tail).1 := ⟨rfl, rfl, rfl⟩

theorem flushed_buf (r : Snap × List FsOp) (tail : List FsOp) : (flushed r tail).1.buf = [] := rfl

end SerfProofs.Snapshot
