/-
What one observer node records about ONE subject `x` along an arbitrary history of inputs, for C01.
The history is summarised by what can be read off the ops (the leave-claim and join-intent times it delivers
about `x`, whether memberlist's last notification about `x` was a join) and by one hypothesis on the states it
passes through (`KeptAlong`: no op erases `x` or its buffered intent); the times agree with the intents about
`x` that the ops apply (`NodeSteps.parts`).  A property of the record of `x` is kept
by a step if the atomic effects keep it (`step_record`): this gives the stability theorems.  `ObsInv` says
what the record or, while `x` is unknown, the buffered intent can be, given the times delivered so far;
`observer_alive` reads it off at the end of the history.
Core Lean only.
-/
import SerfProofs.Lemmas.NodeSteps
import SerfProofs.Lemmas.NodeGossip
import SerfProofs.Lemmas.NodeSelf
namespace SerfProofs.NodeObserver
open SerfModel SerfModel.Node SerfProofs.NodeGossip SerfProofs.NodeSteps SerfProofs.NodeSelf

/-- leave-claim times about `x` that an op delivers to the observer (gossip, or the artificial
leave a merge creates for a member it lists as left, at `mergeClaim`) -/
def opLeaveTimes (x : Name) : Op → List Nat
  | .leaveMsg y t _ _ => if y = x then [t] else []
  | .merge _ st lf _ => if x ∈ lf then [mergeClaim st x] else []
  | _ => []

/-- join-intent times about `x` that an op delivers (gossip, or a merge entry for a member not
listed as left) -/
def opJoinTimes (x : Name) : Op → List Nat
  | .joinMsg y t _ => if y = x then [t] else []
  | .merge _ st lf _ => if x ∈ lf then [] else (st.filter (fun p => decide (p.1 = x))).map (·.2)
  | _ => []

def leaveTimes (ops : List Op) (x : Name) : List Nat := ops.flatMap (opLeaveTimes x)
def joinTimes (ops : List Op) (x : Name) : List Nat := ops.flatMap (opJoinTimes x)

/-- effect of one op on "the last memberlist notification about `x` was NotifyJoin" -/
def upAfter (x : Name) (op : Op) (acc : Bool) : Bool :=
  match op with
  | .nodeJoin y => if y = x then true else acc
  | .nodeLeave y _ => if y = x then false else acc
  | _ => acc

/-- the last memberlist notification about `x` was NotifyJoin (`acc` if there was none) -/
def lastUp (x : Name) : List Op → Bool → Bool
  | [], acc => acc
  | op :: r, acc => lastUp x r (upAfter x op acc)

/-- no operation of the history erases the member `x` or drops / lowers its buffered intent -/
def KeptAlong : Node → List Op → Name → Prop
  | _, [], _ => True
  | n, op :: ops, x => Keeps n op x ∧ KeptAlong (step n op).1 ops x

def NoForceLeave (ops : List Op) (x : Name) : Prop := ∀ op ∈ ops, ∀ p w, op ≠ .forceLeave x p w

/-- the op carries a leave claim about `x` (gossip, force-leave, or a merge listing `x` as left) -/
def isLeaveClaimAbout (x : Name) : Op → Bool
  | .leaveMsg y _ _ _ => decide (y = x)
  | .forceLeave y _ _ => decide (y = x)
  | .merge _ _ lf _ => decide (x ∈ lf)
  | _ => false

theorem mem_mergeJoinTimes (st : List (Name × Nat)) (x : Name) (t : Nat) :
    t ∈ (st.filter (fun p => decide (p.1 = x))).map (·.2) ↔ (x, t) ∈ st := by
  simp only [List.mem_map, List.mem_filter, decide_eq_true_eq]
  constructor
  · rintro ⟨⟨y, t'⟩, ⟨hm, hy⟩, ht⟩
    subst hy; subst ht; exact hm
  · intro h; exact ⟨(x, t), ⟨h, rfl⟩, rfl⟩

theorem KeptAlong.known : ∀ (ops : List Op) (n : Node) (x : Name), KeptAlong n ops x → known n x = true →
    known (run n ops) x = true := by
  intro ops
  induction ops with
  | nil => intro n x _ h; exact h
  | cons op ops ih => intro n x hk h; exact ih _ x hk.2 (hk.1.1 h)

/-- A leave claim about `x` among an op's intents comes from gossip or a merge (the times `opLeaveTimes`
lists), from a local force-leave, or is the node's own `Leave()`. -/
theorem leaveTimes_of_parts {n : Node} {op : Op} {x : Name} {t : Nat} {p : Bool} {w : Nat}
    (hc : Claim.leave x t p w ∈ (parts n op).2) :
    t ∈ opLeaveTimes x op ∨ (∃ p w, op = .forceLeave x p w) ∨ x = n.name := by
  cases op with
  | leaveMsg y u q v =>
    simp only [parts, List.mem_singleton, Claim.leave.injEq] at hc
    obtain ⟨rfl, rfl, _, _⟩ := hc
    exact Or.inl (by simp [opLeaveTimes])
  | merge lt st lf v =>
    rcases mem_parts_merge hc with ⟨y, hy, e⟩ | ⟨_, _, _, e⟩
    · cases e
      exact Or.inl (by simp [opLeaveTimes, hy])
    · cases e
  | forceLeave y q v =>
    simp only [parts, List.mem_singleton, Claim.leave.injEq] at hc
    obtain ⟨rfl, _, _, _⟩ := hc
    exact Or.inr (Or.inl ⟨q, v, rfl⟩)
  | leaveBegin v =>
    simp only [parts] at hc
    split at hc
    · cases hc
    · simp only [List.mem_singleton, Claim.leave.injEq] at hc
      exact Or.inr (Or.inr hc.1)
  | runPending v =>
    simp only [parts] at hc
    split at hc <;> simp at hc
  | _ => simp [parts] at hc

/-- Where a join intent about `x` among an op's intents comes from: gossip or a merge (the times
`opJoinTimes` lists), or the node's own join / refutation. -/
theorem joinTimes_of_parts {n : Node} {op : Op} {x : Name} {t w : Nat}
    (hc : Claim.join x t w ∈ (parts n op).2) : t ∈ opJoinTimes x op ∨ x = n.name := by
  cases op with
  | joinMsg y u v =>
    simp only [parts, List.mem_singleton, Claim.join.injEq] at hc
    obtain ⟨rfl, rfl, _⟩ := hc
    exact Or.inl (by simp [opJoinTimes])
  | merge lt st lf v =>
    rcases mem_parts_merge hc with ⟨_, _, e⟩ | ⟨q, hq, hnl, e⟩
    · cases e
    · cases e
      left
      simp only [opJoinTimes, if_neg hnl]
      exact (mem_mergeJoinTimes st q.1 q.2).mpr hq
  | ownJoin v =>
    simp only [parts, List.mem_singleton, Claim.join.injEq] at hc
    exact Or.inr hc.1
  | runPending v =>
    simp only [parts] at hc
    split at hc
    · cases hc
    · simp only [List.mem_singleton, Claim.join.injEq] at hc
      exact Or.inr hc.1
  | leaveBegin v =>
    simp only [parts] at hc
    split at hc <;> simp at hc
  | _ => simp [parts] at hc

theorem parts_of_joinTimes (n : Node) {op : Op} {x : Name} {t : Nat} (h : t ∈ opJoinTimes x op) :
    ∃ w, Claim.join x t w ∈ (parts n op).2 := by
  cases op with
  | joinMsg y u v =>
    by_cases hy : y = x
    · subst hy
      simp only [opJoinTimes, if_true, List.mem_singleton] at h
      subst h
      exact ⟨v, List.mem_singleton_self _⟩
    · simp [opJoinTimes, hy] at h
  | merge lt st lf v =>
    by_cases hx : x ∈ lf
    · simp [opJoinTimes, hx] at h
    · simp only [opJoinTimes, if_neg hx] at h
      refine ⟨v, List.mem_append_right _ (List.mem_map.mpr ⟨(x, t), ?_, rfl⟩)⟩
      exact List.mem_filter.mpr ⟨(mem_mergeJoinTimes st x t).mp h, decide_eq_true hx⟩
  | _ => simp [opJoinTimes] at h

/-- A property of the record of `x` survives a step that is not `x`'s join notification if the atomic effects
the step can have on that record keep it. -/
theorem step_record (Q : Member → Prop) (x : Name) (n : Node) (op : Op) (hup : op ≠ .nodeJoin x)
    (hleave : ∀ lt p w, .leave x lt p w ∈ (parts n op).2 → ∀ m, Q m → Q (leaveUpd lt m))
    (hjoin : ∀ lt w, .join x lt w ∈ (parts n op).2 → ∀ m, Q m → Q (joinUpd lt m))
    (hdown : ∀ a, op = .nodeLeave x a → ∀ m, Q m → Q (downUpd a m))
    (h : ∀ m, alookup n.members x = some m → Q m) : ∀ m, alookup (step n op).1.members x = some m → Q m := by
  refine step_ind (C := fun k => ∀ m, alookup k.members x = some m → Q m) n op (fun _ s => s.members ▸ h)
    ?_ ?_ ?_ ?_
  · intro y e
    rw [hnj_lookup_ne n y x (fun e' => hup (e' ▸ e))]; exact h
  · intro y a e m' hm'
    by_cases hy : x = y
    · subst hy
      obtain ⟨m, hm, rfl⟩ := Option.map_eq_some_iff.mp ((hnl_rec n x a).symm.trans hm')
      exact hdown a e m (h m hm)
    · rw [hnl_lookup_ne n y a x hy] at hm'; exact h m' hm'
  · intro now ov _ m' hm'
    rw [reap_alookup] at hm'
    split at hm'
    · cases hm'
    · exact h m' hm'
  · intro c hc k hk m' hm'
    by_cases hy : x = c.subject
    · cases c with
      | leave y lt p w =>
        obtain rfl : x = y := hy
        obtain ⟨r, hr, rfl | rfl⟩ := hli_rec_cases k x lt p w m' hm'
        · exact hk _ hr
        · exact hleave lt p w hc r (hk r hr)
      | join y lt w =>
        obtain rfl : x = y := hy
        obtain ⟨r, hr, rfl⟩ := Option.map_eq_some_iff.mp ((hji_rec k x lt w).symm.trans hm')
        exact hjoin lt w hc r (hk r hr)
    · rw [c.run_lookup_ne k x hy] at hm'; exact hk m' hm'

/-- `step_record` along a history that keeps `x`; the sources of a claim are those of `leaveTimes_of_parts` /
`joinTimes_of_parts` (`x = n.name`: the node's own `Leave()`, join or refutation). -/
theorem run_record (Q : Member → Prop) (x : Name) (ops : List Op) : ∀ n : Node,
    (∀ op ∈ ops, op ≠ .nodeJoin x) →
    (∀ op ∈ ops, ∀ lt, (lt ∈ opLeaveTimes x op ∨ (∃ p w, op = .forceLeave x p w) ∨ x = n.name) →
      ∀ m, Q m → Q (leaveUpd lt m)) →
    (∀ op ∈ ops, ∀ lt, (lt ∈ opJoinTimes x op ∨ x = n.name) → ∀ m, Q m → Q (joinUpd lt m)) →
    (∀ op ∈ ops, ∀ a, op = .nodeLeave x a → ∀ m, Q m → Q (downUpd a m)) →
    KeptAlong n ops x → (∃ m, alookup n.members x = some m ∧ Q m) →
    ∃ m, alookup (run n ops).members x = some m ∧ Q m := by
  induction ops with
  | nil => intro n _ _ _ _ _ h; exact h
  | cons op ops ih =>
    intro n hup hl hj hd hk ⟨m, hm, hq⟩
    have hmem : op ∈ op :: ops := List.mem_cons_self ..
    have hQ := step_record Q x n op (hup op hmem) (fun lt _ _ hc => hl op hmem lt (leaveTimes_of_parts hc))
      (fun lt _ hc => hj op hmem lt (joinTimes_of_parts hc)) (hd op hmem)
      (fun m' hm' => by rw [hm] at hm'; cases hm'; exact hq)
    -- the op keeps `x`, so there is a record to speak of
    obtain ⟨m', hm'⟩ := Option.isSome_iff_exists.mp (hk.1.1 (known_of_lookup hm))
    have hn := step_name n op
    apply ih (step n op).1 (fun o ho => hup o (List.mem_cons_of_mem _ ho))
      (fun o ho => by rw [hn]; exact hl o (List.mem_cons_of_mem _ ho))
      (fun o ho => by rw [hn]; exact hj o (List.mem_cons_of_mem _ ho))
      (fun o ho => hd o (List.mem_cons_of_mem _ ho)) hk.2 ⟨m', hm', hQ m' hm'⟩

theorem left_stays_left (n : Node) (ops : List Op) (x : Name) (h : statusOf n x = some .left)
    (hj : ∀ op ∈ ops, op ≠ .nodeJoin x) (hk : KeptAlong n ops x) : statusOf (run n ops) x = some .left := by
  rw [statusOf_eq_iff] at h ⊢
  apply run_record (fun m => m.status = .left) x ops n hj _ _ _ hk h
  · intro _ _ lt _ m hm; exact leaveUpd_status_left lt m hm
  · intro _ _ lt _ m hm
    show (joinUpd lt m).status = .left
    rw [joinUpd_status lt m (by rw [hm]; simp)]; exact hm
  · intro _ _ a _ m hm; exact downUpd_status_left a m hm

theorem opLeaveTimes_nil_of_not_claim (x : Name) (op : Op) (h : isLeaveClaimAbout x op = false) :
    opLeaveTimes x op = [] := by
  cases op <;> simp_all [isLeaveClaimAbout, opLeaveTimes]

theorem failed_stays_failed (n : Node) (ops : List Op) (x : Name) (hx : x ≠ n.name) (h : statusOf n x = some .failed)
    (hj : ∀ op ∈ ops, op ≠ .nodeJoin x) (hl : ∀ op ∈ ops, isLeaveClaimAbout x op = false) (hk : KeptAlong n ops x) :
    statusOf (run n ops) x = some .failed := by
  rw [statusOf_eq_iff] at h ⊢
  apply run_record (fun m => m.status = .failed) x ops n hj _ _ _ hk h
  · intro op ho lt hs m _
    exfalso
    rcases hs with hs | ⟨p, w, rfl⟩ | e
    · rw [opLeaveTimes_nil_of_not_claim x op (hl op ho)] at hs; cases hs
    · have := hl _ ho; simp [isLeaveClaimAbout] at this
    · exact hx e
  · intro _ _ lt _ m hm
    show (joinUpd lt m).status = .failed
    rw [joinUpd_status lt m (by rw [hm]; simp)]; exact hm
  · intro _ _ a _ m hm; exact downUpd_status_failed a m hm

theorem down_step (n : Node) (x : Name) (at_ : Nat) :
    (statusOf n x = some .alive → statusOf (step n (.nodeLeave x at_)).1 x = some .failed) ∧
    (statusOf n x = some .leaving → statusOf (step n (.nodeLeave x at_)).1 x = some .left) := by
  have key : ∀ s s', (∀ m : Member, m.status = s → (downUpd at_ m).status = s') → statusOf n x = some s →
      statusOf (handleNodeLeave n x at_).1 x = some s' := by
    intro s s' hd h
    rw [statusOf_eq_iff] at h ⊢
    obtain ⟨m, hm, hs⟩ := h
    exact ⟨_, by rw [hnl_rec, hm]; rfl, hd m hs⟩
  exact ⟨key _ _ fun m hs => by simp [downUpd, hs], key _ _ fun m hs => by simp [downUpd, hs]⟩

theorem failed_newer_leave_left (n : Node) (x : Name) (t lt w : Nat) (h : statusOf n x = some .failed)
    (hx : x ≠ n.name) (ht : ltimeOf n x = some t) (hlt : t < lt) :
    statusOf (step n (.leaveMsg x lt false w)).1 x = some .left := by
  obtain ⟨m, hm, hs⟩ := statusOf_eq_iff.mp h
  rw [ltimeOf_of_lookup hm] at ht
  cases ht
  show statusOf (handleLeaveIntent n x lt false w).1 x = some .left
  rw [statusOf_eq_iff, hli_rec_other n x lt w (fun e => hx e.1), hm]
  exact ⟨_, rfl, by rw [leaveUpd_of_lt hlt]; simp [hs, afterLeave]⟩

theorem mem_leaveTimes_of_mem {ops : List Op} {op : Op} {x : Name} {t : Nat} (ho : op ∈ ops)
    (ht : t ∈ opLeaveTimes x op) : t ∈ leaveTimes ops x := by
  unfold leaveTimes
  exact List.mem_flatMap.mpr ⟨op, ho, ht⟩

/-- graceful leave: a newer leave claim about an up member, then anything but a memberlist
notification about `x` or a join intent newer than the claim, then the down notification ⇒ left -/
theorem leave_then_down_left (n : Node) (x : Name) (L t w at_ : Nat) (mid : List Op) (hx : x ≠ n.name)
    (hs : statusOf n x = some .alive ∨ statusOf n x = some .leaving) (ht : ltimeOf n x = some t) (hL : t < L)
    (hmid1 : ∀ op ∈ mid, op ≠ .nodeJoin x ∧ ∀ a, op ≠ .nodeLeave x a)
    (hmid2 : ∀ j ∈ joinTimes mid x, j ≤ L)
    (hk : KeptAlong (step n (.leaveMsg x L false w)).1 mid x) :
    statusOf (run n ([.leaveMsg x L false w] ++ mid ++ [.nodeLeave x at_])) x = some .left := by
  rw [run_append]
  show statusOf (run (run (step n (.leaveMsg x L false w)).1 mid) [.nodeLeave x at_]) x = some .left
  have hn1 : (step n (.leaveMsg x L false w)).1.name = n.name := step_name _ _
  -- after the claim: leaving at L
  have h1 : ∃ m, alookup (step n (.leaveMsg x L false w)).1.members x = some m ∧
      (m.status = .leaving ∧ L ≤ m.ltime) := by
    obtain ⟨m, hm, rfl⟩ := ltimeOf_eq_iff.mp ht
    show ∃ m', alookup (handleLeaveIntent n x L false w).1.members x = some m' ∧ _
    rw [hli_rec_other n x L w (fun e => hx e.1), hm, Option.map_some, leaveUpd_of_lt hL]
    refine ⟨_, rfl, ?_, Nat.le_refl _⟩
    show afterLeave m.status = .leaving
    rcases hs with hs | hs
    · rw [Option.some.inj ((statusOf_of_lookup hm).symm.trans hs)]; rfl
    · rw [Option.some.inj ((statusOf_of_lookup hm).symm.trans hs)]; rfl
  have h2 := run_record (fun m => m.status = .leaving ∧ L ≤ m.ltime) x mid _
    (fun op ho => (hmid1 op ho).1) ?_ ?_ ?_ hk h1
  · apply (down_step _ x at_).2
    rw [statusOf_eq_iff]
    obtain ⟨m, hm, hst, _⟩ := h2
    exact ⟨m, hm, hst⟩
  · intro op _ lt _ m hm
    show (leaveUpd lt m).status = .leaving ∧ L ≤ (leaveUpd lt m).ltime
    unfold leaveUpd
    split
    · exact hm
    · simp [hm.1, afterLeave]; omega
  · intro op ho lt hsrc m hm
    show (joinUpd lt m).status = .leaving ∧ L ≤ (joinUpd lt m).ltime
    have hle : lt ≤ m.ltime := by
      rcases hsrc with hsrc | e
      · have := hmid2 lt (List.mem_flatMap.mpr ⟨op, ho, hsrc⟩); omega
      · rw [hn1] at e; exact absurd e hx
    rw [joinUpd_of_le hle]; exact hm
  · intro op ho a e
    exact absurd e ((hmid1 op ho).2 a)

/-- `Keeps` as a Boolean, so that `KeptAlong` of a concrete run is found by evaluation (`keptAlong_of_B`):
`Keeps` quantifies over all intents and has no `Decidable` instance. -/
def keepsB (n : Node) (op : Op) (x : Name) : Bool :=
  if known n x then known (step n op).1 x
  else match intentOf n x with
    | none => true
    | some i => known (step n op).1 x ||
      (match intentOf (step n op).1 x with
       | some i' => decide (i.ltime ≤ i'.ltime)
       | none => false)

def keptAlongB : Node → List Op → Name → Bool
  | _, [], _ => true
  | n, op :: ops, x => keepsB n op x && keptAlongB (step n op).1 ops x

theorem keeps_of_keepsB (n : Node) (op : Op) (x : Name) (h : keepsB n op x = true) : Keeps n op x := by
  unfold keepsB at h
  constructor
  · intro hk; rw [hk] at h; simpa using h
  · intro i hk hi
    rw [hk, hi] at h
    simp only [Bool.false_eq_true, if_false, Bool.or_eq_true] at h
    rcases h with h | h
    · exact Or.inl h
    · right
      cases hi' : intentOf (step n op).1 x with
      | none => rw [hi'] at h; cases h
      | some i' => rw [hi'] at h; exact ⟨i', rfl, of_decide_eq_true h⟩

theorem keptAlong_of_B : ∀ (ops : List Op) (n : Node) (x : Name), keptAlongB n ops x = true → KeptAlong n ops x := by
  intro ops
  induction ops with
  | nil => intro _ _ _; trivial
  | cons op ops ih =>
    intro n x h
    simp only [keptAlongB, Bool.and_eq_true] at h
    exact ⟨keeps_of_keepsB n op x h.1, ih _ x h.2⟩

/-- the entries about `x` are untouched: same lookup, no new entry -/
def IntSame (x : Name) (a b : List (Name × Intent)) : Prop :=
  alookup b x = alookup a x ∧ ∀ i, (x, i) ∈ b → (x, i) ∈ a

theorem IntSame.refl {x : Name} {a : List (Name × Intent)} : IntSame x a a := ⟨rfl, fun _ h => h⟩

theorem intSame_upsert_ne {x y : Name} {ints : List (Name × Intent)} {b : Bool} {lt w : Nat} (hy : x ≠ y) :
    IntSame x ints (upsertIntent ints y b lt w).1 := by
  unfold upsertIntent
  split
  · split
    · exact ⟨alookup_ainsert_ne hy, fun i h => mem_ainsert_ne hy h⟩
    · exact IntSame.refl
  · exact ⟨alookup_ainsert_ne hy, fun i h => mem_ainsert_ne hy h⟩

theorem claim_intSame (c : Claim) (n : Node) (x : Name) (hx : x ≠ c.subject) :
    IntSame x n.intents (c.run n).intents := by
  cases c with
  | leave y lt p w =>
    show IntSame x n.intents (handleLeaveIntent n y lt p w).1.intents
    rw [hli_intents]
    split
    · exact intSame_upsert_ne hx
    · exact IntSame.refl
  | join y lt w =>
    show IntSame x n.intents (handleJoinIntent n y lt w).1.intents
    rw [hji_intents]
    split
    · exact intSame_upsert_ne hx
    · exact IntSame.refl

/-- What a record `m` of `x` can be after a history that delivered the join-intent times `J` and the
leave-claim times `L` about `x` (as sets), and whose last memberlist notification about `x` was a
join iff `up`: its status time is at least as new as every join intent delivered; if it is leaving, its
status time is one of the delivered leave claims; it is alive or leaving iff `up`.  So `J` may be any
part of the join intents delivered and `L` anything that contains the leave claims (`weaken`). -/
structure ObsKn (m : Member) (up : Bool) (J L : Nat → Prop) : Prop where
  le : ∀ t, J t → t ≤ m.ltime
  leaving : m.status = .leaving → L m.ltime
  upIff : up = true ↔ (m.status = .alive ∨ m.status = .leaving)

/-- While `x` is unknown: no join notification is outstanding; an intent is buffered that is at least as
new as every join intent delivered, and a buffered leave is one of the delivered claims.  `leave` is about every
entry for `x`, not the one `alookup` finds: no invariant makes the keys of `intents` unique (as `BookInv.keys`
does for `members`), so the filter of `reapIntents` may uncover another entry. -/
structure ObsUnk (ints : List (Name × Intent)) (x : Name) (up : Bool) (J L : Nat → Prop) : Prop where
  down : up = false
  leave : ∀ i, (x, i) ∈ ints → i.isLeave = true → L i.ltime
  le : ∀ t, J t → ∃ i, alookup ints x = some i ∧ t ≤ i.ltime

/-- What the observer `n` holds about `x`. -/
def ObsInv (n : Node) (x : Name) (up : Bool) (J L : Nat → Prop) : Prop :=
  match alookup n.members x with
  | some m => ObsKn m up J L
  | none => ObsUnk n.intents x up J L

theorem ObsKn.weaken {m : Member} {up : Bool} {J L J' L' : Nat → Prop} (h : ObsKn m up J L)
    (hJ : ∀ t, J' t → J t) (hL : ∀ t, L t → L' t) : ObsKn m up J' L' :=
  ⟨fun t ht => h.le t (hJ t ht), fun hs => hL _ (h.leaving hs), h.upIff⟩

theorem ObsUnk.weaken {ints : List (Name × Intent)} {x : Name} {up : Bool} {J L J' L' : Nat → Prop}
    (h : ObsUnk ints x up J L) (hJ : ∀ t, J' t → J t) (hL : ∀ t, L t → L' t) : ObsUnk ints x up J' L' :=
  ⟨h.down, fun i hm hl => hL _ (h.leave i hm hl), fun t ht => h.le t (hJ t ht)⟩

theorem ObsUnk.mono {a b : List (Name × Intent)} {x : Name} {up : Bool} {J L : Nat → Prop}
    (h : ObsUnk a x up J L) (hsub : ∀ i, (x, i) ∈ b → (x, i) ∈ a)
    (hkeep : ∀ i, alookup a x = some i → ∃ i', alookup b x = some i' ∧ i.ltime ≤ i'.ltime) :
    ObsUnk b x up J L := by
  refine ⟨h.down, fun i hm => h.leave i (hsub i hm), fun t ht => ?_⟩
  obtain ⟨i, hi, hle⟩ := h.le t ht
  obtain ⟨i', hi', hle'⟩ := hkeep i hi
  exact ⟨i', hi', Nat.le_trans hle hle'⟩

theorem ObsInv.weaken {n : Node} {x : Name} {up : Bool} {J L J' L' : Nat → Prop} (h : ObsInv n x up J L)
    (hJ : ∀ t, J' t → J t) (hL : ∀ t, L t → L' t) : ObsInv n x up J' L' := by
  unfold ObsInv at h ⊢
  split at h
  · exact h.weaken hJ hL
  · exact h.weaken hJ hL

theorem ObsInv.congr {n : Node} {x : Name} {up : Bool} {J L J' L' : Nat → Prop} (h : ObsInv n x up J L)
    (hJ : ∀ t, J' t ↔ J t) (hL : ∀ t, L' t ↔ L t) : ObsInv n x up J' L' :=
  h.weaken (fun t => (hJ t).mp) (fun t => (hL t).mpr)

theorem ObsInv.frame {n n' : Node} {x : Name} {up : Bool} {J L : Nat → Prop} (h : ObsInv n x up J L)
    (hm : alookup n'.members x = alookup n.members x) (hi : IntSame x n.intents n'.intents) :
    ObsInv n' x up J L := by
  unfold ObsInv at h ⊢
  rw [hm]
  split at h
  · exact h
  · exact h.mono hi.2 fun i hl => ⟨i, hi.1 ▸ hl, Nat.le_refl _⟩

theorem ObsInv.start (n : Node) (x : Name) (hk : known n x = false) (hi : intentOf n x = none) :
    ObsInv n x false (fun _ => False) (fun _ => False) := by
  have hm : alookup n.members x = none := by
    unfold known at hk
    cases h : alookup n.members x with
    | none => rfl
    | some m => rw [h] at hk; cases hk
  unfold ObsInv
  rw [hm]
  exact ⟨rfl, fun i hmem _ => absurd (List.mem_map.mpr ⟨(x, i), hmem, rfl⟩)
    ((alookup_eq_none_iff n.intents x).mp hi), fun _ ht => ht.elim⟩

theorem afterLeave_up (s : Status) :
    (afterLeave s = .alive ∨ afterLeave s = .leaving) ↔ (s = .alive ∨ s = .leaving) := by
  cases s <;> simp [afterLeave]

theorem ObsKn.leaveUpd {m : Member} {up : Bool} {J L : Nat → Prop} (h : ObsKn m up J L) (lt : Nat) :
    ObsKn (leaveUpd lt m) up J (fun t => L t ∨ t = lt) := by
  by_cases hle : lt ≤ m.ltime
  · rw [leaveUpd_of_le hle]
    exact ⟨h.le, fun hs => Or.inl (h.leaving hs), h.upIff⟩
  · have hlt := Nat.lt_of_not_le hle
    rw [leaveUpd_of_lt hlt]
    exact ⟨fun t ht => Nat.le_trans (h.le t ht) (Nat.le_of_lt hlt), fun _ => Or.inr rfl,
      h.upIff.trans (afterLeave_up m.status).symm⟩

theorem ObsKn.joinUpd {m : Member} {up : Bool} {J L : Nat → Prop} (h : ObsKn m up J L) (lt : Nat) :
    ObsKn (joinUpd lt m) up (fun t => J t ∨ t = lt) L := by
  refine ⟨fun t ht => ?_, fun hs => ?_, ?_⟩
  · rw [joinUpd_ltime]
    rcases ht with ht | rfl
    · exact Nat.le_trans (h.le t ht) (Nat.le_max_right ..)
    · exact Nat.le_max_left ..
  · -- a newer join intent turns leaving into alive: a record still leaving was not touched
    rw [joinUpd_status_eq] at hs
    split at hs
    · cases hs
    · next hn =>
      rw [joinUpd_of_le (Nat.le_of_not_lt fun hlt => hn ⟨hs, hlt⟩)]
      exact h.leaving hs
  · rw [joinUpd_status_eq]
    split
    · next hs => simpa [hs.1] using h.upIff
    · exact h.upIff

theorem ObsKn.downUpd {m : Member} {up : Bool} {J L : Nat → Prop} (h : ObsKn m up J L) (a : Nat) :
    ObsKn (downUpd a m) false J L := by
  refine ⟨fun t ht => by rw [downUpd_ltime]; exact h.le t ht, fun hs => ?_, ?_⟩
  · exfalso
    unfold NodeSteps.downUpd at hs
    split at hs
    · cases hs
    · cases hs
    · next h1 _ => exact h1 hs
  · unfold NodeSteps.downUpd
    split
    · simp
    · simp
    · next h1 h2 => simp; exact ⟨h2, h1⟩

theorem ObsKn.up_again {m : Member} {up : Bool} {J L : Nat → Prop} (h : ObsKn m up J L) :
    ObsKn { m with status := .alive, leaveTime := 0 } true J L :=
  ⟨h.le, (fun hs => nomatch hs), by simp⟩

theorem ObsUnk.newRec {ints : List (Name × Intent)} {x : Name} {up : Bool} {J L : Nat → Prop}
    (h : ObsUnk ints x up J L) : ObsKn (newRec (alookup ints x)) true J L := by
  have hle : ∀ t, J t → t ≤ (NodeSteps.newRec (alookup ints x)).ltime := fun t ht => by
    obtain ⟨i, hi, hle⟩ := h.le t ht
    rw [hi, newRec_ltime]; exact hle
  cases hi : alookup ints x with
  | none => exact ⟨hi ▸ hle, (fun hs => nomatch hs), by simp [NodeSteps.newRec]⟩
  | some i =>
    rw [hi] at hle
    by_cases hl : i.isLeave = true
    · refine ⟨hle, fun _ => ?_, by simp [NodeSteps.newRec, hl]⟩
      simpa [NodeSteps.newRec, hl] using h.leave i (mem_of_alookup hi) hl
    · exact ⟨hle, fun hs => by simp [NodeSteps.newRec, hl] at hs, by simp [NodeSteps.newRec, hl]⟩

/-- buffering an intent at time `lt` about the unknown `x`; `J'`, `L'` are `J`, `L` with `lt` added to
the one the intent belongs to -/
theorem ObsUnk.upsert {ints : List (Name × Intent)} {x : Name} {up : Bool} {J L J' L' : Nat → Prop}
    (b : Bool) (lt w : Nat) (h : ObsUnk ints x up J L) (hJ : ∀ t, J' t → J t ∨ t = lt)
    (hL : ∀ t, L t → L' t) (hb : b = true → L' lt) : ObsUnk (upsertIntent ints x b lt w).1 x up J' L' := by
  rcases upsertIntent_cases ints x b lt w with ⟨he, i0, hi0, hle⟩ | ⟨_, hnew, hall, hold⟩
  · -- nothing changes: the buffered intent is at least as new
    rw [he]
    refine ⟨h.down, fun i hmem hl => hL _ (h.leave i hmem hl), fun t ht => ?_⟩
    rcases hJ t ht with ht | rfl
    · exact h.le t ht
    · exact ⟨i0, hi0, hle⟩
  · -- every entry about `x` is the new intent, newer than the old one
    refine ⟨h.down, fun i hmem hl => ?_, fun t ht => ⟨_, hnew, ?_⟩⟩
    · rw [hall i hmem] at hl ⊢; exact hb hl
    · show t ≤ lt
      rcases hJ t ht with ht | rfl
      · obtain ⟨i0, hi0, hle⟩ := h.le t ht
        exact Nat.le_trans hle (Nat.le_of_lt (hold i0 hi0))
      · exact Nat.le_refl _

/-- One intent: its time joins `J` or `L`.  `hkeep` excludes the one intent that breaks the invariant, an
accepted prune about `x`: it erases the record while memberlist still reports `x` up (`ObsUnk.down`). -/
theorem obs_claim (c : Claim) (n : Node) (x : Name) (up : Bool) (J L : Nat → Prop) (hx : x ≠ n.name)
    (hkeep : known n x = true → known (c.run n) x = true) (h : ObsInv n x up J L) :
    ObsInv (c.run n) x up (fun t => J t ∨ ∃ w, c = .join x t w) (fun t => L t ∨ ∃ p w, c = .leave x t p w) := by
  by_cases hy : x = c.subject
  · cases c with
    | leave y lt p w =>
      obtain rfl : x = y := hy
      have h1 : ObsInv (handleLeaveIntent n x lt p w).1 x up J (fun t => L t ∨ t = lt) := by
        unfold ObsInv known at *
        change (alookup n.members x).isSome = true →
          (alookup (handleLeaveIntent n x lt p w).1.members x).isSome = true at hkeep
        rw [hli_rec, if_neg (fun e => hx e.1)] at hkeep ⊢
        rw [hli_intents]
        cases hm : alookup n.members x with
        | none =>
          rw [hm] at h
          exact h.upsert true lt w (fun t => Or.inl) (fun t => Or.inl) (fun _ => Or.inr rfl)
        | some m =>
          rw [hm] at h hkeep
          rw [Option.bind_some] at hkeep ⊢
          have hnp : ¬ (p = true ∧ m.ltime < lt) := fun hp => by
            rw [if_pos hp] at hkeep; exact absurd (hkeep rfl) (by simp)
          rw [if_neg hnp]
          exact h.leaveUpd lt
      exact h1.weaken (fun t => by simp) (fun t => by simp [eq_comm])
    | join y lt w =>
      obtain rfl : x = y := hy
      have h1 : ObsInv (handleJoinIntent n x lt w).1 x up (fun t => J t ∨ t = lt) L := by
        unfold ObsInv at *
        rw [hji_rec, hji_intents]
        cases hm : alookup n.members x with
        | none =>
          rw [hm] at h
          exact h.upsert false lt w (fun t => id) (fun t => id) (fun e => nomatch e)
        | some m =>
          rw [hm] at h
          exact h.joinUpd lt
      exact h1.congr (fun t => by simp [eq_comm]) (fun t => by simp)
  · exact (h.frame (c.run_lookup_ne n x hy) (claim_intSame c n x hy)).weaken
      (fun t => (or_iff_left fun ⟨w, e⟩ => hy (by rw [e]; rfl)).mp) (fun t => Or.inl)

/-- The intents of one op, in order.  `x` is still known at the end if it was at the start (the op
keeps it); intents create no record, so it is known all along and no prune among them erased it. -/
theorem obs_claims (x : Name) (up : Bool) (cs : List Claim) : ∀ (n : Node) (J L : Nat → Prop), x ≠ n.name →
    (known n x = true → known (cs.foldl Claim.run n) x = true) → ObsInv n x up J L →
    ObsInv (cs.foldl Claim.run n) x up (fun t => J t ∨ ∃ w, .join x t w ∈ cs)
      (fun t => L t ∨ ∃ p w, .leave x t p w ∈ cs) := by
  induction cs with
  | nil => intro n J L _ _ h; exact h.congr (fun t => by simp) (fun t => by simp)
  | cons c cs ih =>
    intro n J L hx hk h
    have h1 := obs_claim c n x up J L hx
      (fun hn => (claims_mono cs (c.run n)).known_of_known x (hk hn)) h
    have h2 := ih (c.run n) _ _ (by rw [c.run_name]; exact hx)
      (fun hn => hk ((c.run_mono n).known_of_known x hn)) h1
    refine h2.congr (fun t => ?_) (fun t => ?_)
    · simp only [List.mem_cons, or_assoc, exists_or, eq_comm]
    · simp only [List.mem_cons, or_assoc, exists_or, eq_comm]

theorem obs_hnj (n : Node) (x : Name) (up : Bool) (J L : Nat → Prop) (h : ObsInv n x up J L) :
    ObsInv (handleNodeJoin n x).1 x true J L := by
  unfold ObsInv at *
  rw [hnj_rec]
  cases hm : alookup n.members x with
  | none => rw [hm] at h; exact h.newRec
  | some m => rw [hm] at h; exact h.up_again

theorem obs_hnl (n : Node) (x : Name) (a : Nat) (up : Bool) (J L : Nat → Prop) (h : ObsInv n x up J L) :
    ObsInv (handleNodeLeave n x a).1 x false J L := by
  unfold ObsInv at *
  rw [hnl_rec, (hnl_bookOnly n x a).intents]
  cases hm : alookup n.members x with
  | none => rw [hm] at h; exact h.down ▸ h
  | some m => rw [hm] at h; exact h.downUpd a

theorem obs_reap (n : Node) (x : Name) (now : Nat) (ov : Name → Nat → Nat) (up : Bool) (J L : Nat → Prop)
    (hk : Keeps n (.reap now ov) x) (h : ObsInv n x up J L) : ObsInv (reap n now ov).1 x up J L := by
  unfold ObsInv at *
  cases hm : alookup n.members x with
  | some m =>
    rw [hm] at h
    have hkn : (alookup (reap n now ov).1.members x).isSome = true := hk.1 (known_of_lookup hm)
    rw [reap_alookup] at hkn ⊢
    split at hkn
    · cases hkn
    · next hx => rw [if_neg hx, hm]; exact h
  | none =>
    rw [hm] at h
    have hm' : alookup (reap n now ov).1.members x = none := by rw [reap_alookup, hm, ite_self]
    rw [hm']
    have hkeep : ∀ i, alookup n.intents x = some i →
        ∃ i', alookup (reap n now ov).1.intents x = some i' ∧ i.ltime ≤ i'.ltime := by
      intro i hi
      rcases hk.2 i (known_of_lookup_none hm) hi with h0 | h0
      · have h0' : known (reap n now ov).1 x = true := h0
        rw [known_of_lookup_none hm'] at h0'; cases h0'
      · exact h0
    exact h.mono (fun i hmem => (List.mem_filter.mp hmem).1) hkeep

/-- an op that is not a memberlist notification or a reaper tick: its own part holds nothing about
`x`, its intents are accounted for one by one, and they are the times the summaries list -/
theorem obs_intents (n : Node) (op : Op) (x : Name) (up : Bool) (J L : Nat → Prop) (hd : direct op = false)
    (hx : x ≠ n.name) (hk : Keeps n op x) (hf : ∀ p w, op ≠ .forceLeave x p w) (h : ObsInv n x up J L) :
    ObsInv (step n op).1 x up (fun t => J t ∨ t ∈ opJoinTimes x op) (fun t => L t ∨ t ∈ opLeaveTimes x op) := by
  have hs := parts_same n op hd
  have h0 : ObsInv (parts n op).1 x up J L :=
    h.frame (by rw [hs.members]) (by rw [hs.intents]; exact IntSame.refl)
  have h1 := obs_claims x up (parts n op).2 (parts n op).1 J L (by rw [hs.name]; exact hx)
    (by rw [← step_eq, known_congr hs.members]; exact hk.1) h0
  rw [← step_eq] at h1
  refine h1.weaken (fun t => Or.imp_right (parts_of_joinTimes n)) (fun t => Or.imp_right fun ⟨p, w, hc⟩ => ?_)
  rcases leaveTimes_of_parts hc with h' | ⟨p', w', e⟩ | e
  · exact h'
  · exact absurd e (hf p' w')
  · exact absurd e hx

theorem obs_step (n : Node) (op : Op) (x : Name) (up : Bool) (J L : Nat → Prop) (hx : x ≠ n.name)
    (hk : Keeps n op x) (hf : ∀ p w, op ≠ .forceLeave x p w) (h : ObsInv n x up J L) :
    ObsInv (step n op).1 x (upAfter x op up) (fun t => J t ∨ t ∈ opJoinTimes x op)
      (fun t => L t ∨ t ∈ opLeaveTimes x op) := by
  -- the three ops that carry no intent: the summaries list nothing for them
  have hnil : ∀ {n' : Node} {up' : Bool}, opJoinTimes x op = [] → opLeaveTimes x op = [] →
      ObsInv n' x up' J L → ObsInv n' x up' (fun t => J t ∨ t ∈ opJoinTimes x op)
        (fun t => L t ∨ t ∈ opLeaveTimes x op) := by
    intro n' up' e1 e2 h'
    exact h'.congr (fun t => by rw [e1]; simp) (fun t => by rw [e2]; simp)
  cases op with
  | nodeJoin y =>
    refine hnil rfl rfl ?_
    show ObsInv (handleNodeJoin n y).1 x (if y = x then true else up) J L
    by_cases hy : y = x
    · subst hy; rw [if_pos rfl]; exact obs_hnj n y up J L h
    · rw [if_neg hy]
      exact h.frame (hnj_lookup_ne n y x (Ne.symm hy)) (by rw [(hnj_bookOnly n y).intents]; exact IntSame.refl)
  | nodeLeave y a =>
    refine hnil rfl rfl ?_
    show ObsInv (handleNodeLeave n y a).1 x (if y = x then false else up) J L
    by_cases hy : y = x
    · subst hy; rw [if_pos rfl]; exact obs_hnl n y a up J L h
    · rw [if_neg hy]
      exact h.frame (hnl_lookup_ne n y a x (Ne.symm hy)) (by rw [(hnl_bookOnly n y a).intents]; exact IntSame.refl)
  | reap now ov => exact hnil rfl rfl (obs_reap n x now ov up J L hk h)
  | _ => exact obs_intents n _ x up J L rfl hx hk hf h

theorem obs_run (x : Name) (ops : List Op) : ∀ (n : Node) (up : Bool) (J L : Nat → Prop), x ≠ n.name →
    KeptAlong n ops x → NoForceLeave ops x → ObsInv n x up J L →
    ObsInv (run n ops) x (lastUp x ops up) (fun t => J t ∨ t ∈ joinTimes ops x)
      (fun t => L t ∨ t ∈ leaveTimes ops x) := by
  induction ops with
  | nil => intro n up J L _ _ _ h; exact h.congr (fun t => by simp [joinTimes]) (fun t => by simp [leaveTimes])
  | cons op ops ih =>
    intro n up J L hx hk hf h
    have h1 := obs_step n op x up J L hx hk.1 (fun p w => hf op (List.mem_cons_self ..) p w) h
    have h2 := ih (step n op).1 _ _ _ (by rw [step_name]; exact hx) hk.2
      (fun o ho => hf o (List.mem_cons_of_mem _ ho)) h1
    exact h2.congr (fun t => by simp [joinTimes, or_assoc]) (fun t => by simp [leaveTimes, or_assoc])

/-- For EVERY history at an observer that starts without any knowledge of `x`: if the last
memberlist notification about `x` is a join, `x` is not erased, the observer's operator does not
force-leave `x`, and every leave claim about `x` delivered to the observer is strictly older than
some join intent about `x` delivered to it, the observer lists `x` as alive. -/
theorem observer_alive_from (n : Node) (ops : List Op) (x : Name) (hx : x ≠ n.name)
    (hk0 : known n x = false) (hi0 : intentOf n x = none)
    (hk : KeptAlong n ops x) (hf : NoForceLeave ops x)
    (hup : lastUp x ops false = true)
    (hnewer : ∀ l ∈ leaveTimes ops x, ∃ j ∈ joinTimes ops x, l < j) :
    statusOf (run n ops) x = some .alive := by
  have h := obs_run x ops n false _ _ hx hk hf (ObsInv.start n x hk0 hi0)
  rw [hup] at h
  unfold ObsInv at h
  cases hm : alookup (run n ops).members x with
  | none => rw [hm] at h; cases h.down
  | some m =>
    rw [hm] at h
    rw [statusOf_eq_iff]
    refine ⟨m, hm, ?_⟩
    rcases h.upIff.mp rfl with hs | hs
    · exact hs
    · exfalso
      obtain ⟨j, hj, hlt⟩ := hnewer _ ((h.leaving hs).resolve_left id)
      have := h.le j (Or.inr hj)
      omega

theorem observer_alive (name : Name) (cfg : Config) (ops : List Op) (x : Name) (hx : x ≠ name)
    (hk : KeptAlong (Node.init name cfg) ops x) (hf : NoForceLeave ops x)
    (hup : lastUp x ops false = true)
    (hnewer : ∀ l ∈ leaveTimes ops x, ∃ j ∈ joinTimes ops x, l < j) :
    statusOf (run (Node.init name cfg) ops) x = some .alive := by
  have hne : ¬ (name == x) = true := by intro e; exact hx (eq_of_beq e).symm
  apply observer_alive_from (Node.init name cfg) ops x hx _ rfl hk hf hup hnewer
  simp [known, Node.init, alookup_cons, hne]

end SerfProofs.NodeObserver
