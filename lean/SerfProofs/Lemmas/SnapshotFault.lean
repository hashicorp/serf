/-
The snapshotter under a single I/O fault (model `SerfModel.SnapshotFault` with `nilOnSwap := false`,
serf e2c64f9: compact() never sets its handles to nil).

`Frame a b` collects what no I/O function of the fault model changes (the memory, the two
flags, the code shape, the fault plan) and what it keeps (a writer in place and no panic);
one walk over the I/O functions proves it, and `P` (no panic: C12_no_panic), `KeepM` and the
invariant half of `Q` (the fault stays consumed) are read off it.  Above the I/O, an event is
the same list of records as in the fault-free model (`fStep_eq`), so the memory stays well
formed along every faulty run by the same lemmas as in C10.
-/
import SerfModel.Model.SnapshotFault
import SerfProofs.Lemmas.SnapshotSteps
import SerfProofs.Lemmas.Ite

namespace SerfProofs.SnapshotFault
open SerfModel SerfModel.Snapshot SerfModel.SnapshotFault SerfProofs.Snapshot

/-- the code keeps its handles (current shape), a writer is installed, no panic so far -/
def P (st : FSnap) : Prop := st.nilOnSwap = false ∧ st.writer = true ∧ st.panicked = false

/-- `b` has the memory, the leave flag, the rejoin flag and the code shape of `a` -/
def KeepM (a b : FSnap) : Prop :=
  b.s.mem = a.s.mem ∧ b.s.leaving = a.s.leaving ∧ b.s.rejoin = a.s.rejoin ∧ b.removeMissingFails = a.removeMissingFails

/-- the single fault lies in the past (or there is none) -/
def Consumed (st : FSnap) : Prop := st.fault = none ∨ ∃ k, st.fault = some k ∧ k < st.nops

/-- current code shape, writer installed, no panic, fault consumed -/
def Q (st : FSnap) : Prop := P st ∧ st.removeMissingFails = false ∧ Consumed st

theorem P.shape {st : FSnap} (h : P st) : st.nilOnSwap = false := h.1
theorem P.writer {st : FSnap} (h : P st) : st.writer = true := h.2.1
theorem P.panicked {st : FSnap} (h : P st) : st.panicked = false := h.2.2
theorem P.ok {st : FSnap} (h : P st) : ¬ st.panicked = true := by rw [h.panicked]; exact Bool.false_ne_true
theorem Q.p {st : FSnap} (h : Q st) : P st := h.1

/-- What every I/O function of the fault model guarantees, with or without the fault.  The plan `fault` stays and the
operation counter `nops` only grows, so a fault that lies in the past stays there (`Frame.q`). -/
structure Frame (a b : FSnap) : Prop where
  keep : KeepM a b
  nilOnSwap : b.nilOnSwap = a.nilOnSwap
  fault : b.fault = a.fault
  nops : a.nops ≤ b.nops
  p : P a → P b

theorem Frame.refl (a : FSnap) : Frame a a := ⟨⟨rfl, rfl, rfl, rfl⟩, rfl, rfl, Nat.le_refl _, id⟩

theorem Frame.trans {a b c : FSnap} (h1 : Frame a b) (h2 : Frame b c) : Frame a c :=
  have ⟨m1, l1, r1, f1⟩ := h1.keep
  have ⟨m2, l2, r2, f2⟩ := h2.keep
  ⟨⟨m2.trans m1, l2.trans l1, r2.trans r1, f2.trans f1⟩,
    h2.nilOnSwap.trans h1.nilOnSwap, h2.fault.trans h1.fault, Nat.le_trans h1.nops h2.nops, fun h => h2.p (h1.p h)⟩

theorem Frame.q {a b : FSnap} (h : Frame a b) (hq : Q a) : Q b := by
  obtain ⟨hp, hrm, hcons⟩ := hq
  obtain ⟨_, _, _, hf⟩ := h.keep
  refine ⟨h.p hp, hf.trans hrm, ?_⟩
  rcases hcons with e | ⟨k, e, hk⟩
  · exact .inl (h.fault.trans e)
  · exact .inr ⟨k, h.fault.trans e, Nat.lt_of_lt_of_le hk h.nops⟩

theorem Frame.ite {st : FSnap} {c : Prop} [Decidable c] {a b : FSnap} (ha : c → Frame st a) (hb : ¬ c → Frame st b) :
    Frame st (if c then a else b) := ite_prop (Frame st) ha hb

theorem Frame.ite_fst {β : Type} {st : FSnap} {c : Prop} [Decidable c] {a b : FSnap × β} (ha : c → Frame st a.1)
    (hb : ¬ c → Frame st b.1) : Frame st (if c then a else b).1 := ite_prop (fun r : FSnap × β => Frame st r.1) ha hb

/-- the record updates of the model that touch nothing `Frame` looks at; stated for a variable state, so that
applying it costs no reduction -/
theorem Frame.update (a : FSnap) {b : Bytes} {o : Nat} {f x1 x2 x3 : Bool} :
    Frame a { a with s := { a.s with buf := b, offset := o, flushDue := f }, sticky := x1, attempted := x2, fhClosed := x3 } :=
  ⟨⟨rfl, rfl, rfl, rfl⟩, rfl, rfl, Nat.le_refl _, id⟩
theorem Frame.set_mainExists (a : FSnap) (b : Bool) : Frame a { a with mainExists := b } :=
  ⟨⟨rfl, rfl, rfl, rfl⟩, rfl, rfl, Nat.le_refl _, id⟩

/-- compact() installs its new handles -/
theorem Frame.fresh (a : FSnap) {s' : Snap} (h : SameMem a.s s') :
    Frame a { a with writer := true, sticky := false, fh := true, fhClosed := false, s := s' } :=
  have ⟨hm, hr, hl⟩ := h
  ⟨⟨hm, hl, hr, rfl⟩, rfl, rfl, Nat.le_refl _, fun hp => ⟨hp.shape, rfl, hp.panicked⟩⟩

/-- `nilOnSwap := true` (serf before e2c64f9): compact() sets its handles to nil; not the code shape of a `P` state -/
theorem Frame.nil (a : FSnap) (h : a.nilOnSwap = true) : Frame a { a with writer := false, sticky := false, fh := false } :=
  ⟨⟨rfl, rfl, rfl, rfl⟩, rfl, rfl, Nat.le_refl _, fun hp => by rw [hp.shape] at h; cases h⟩

/-- a nil writer panics: not from a state with a writer -/
theorem Frame.panic {a : FSnap} (h : (!a.writer) = true) : Frame a { a with panicked := true } :=
  ⟨⟨rfl, rfl, rfl, rfl⟩, rfl, rfl, Nat.le_refl _, fun hp => by rw [hp.writer] at h; cases h⟩

theorem doOpW_frame (st : FSnap) (op : FsOp) (w : Bool) : Frame st (doOpW st op w).1 :=
  Frame.ite_fst (fun _ => ⟨⟨rfl, rfl, rfl, rfl⟩, rfl, rfl, Nat.le_succ _, id⟩) fun _ =>
    Frame.ite_fst (fun _ => ⟨⟨rfl, rfl, rfl, rfl⟩, rfl, rfl, Nat.le_succ _, id⟩)
      (fun _ => ⟨⟨rfl, rfl, rfl, rfl⟩, rfl, rfl, Nat.le_succ _, id⟩)

theorem doOp_frame (st : FSnap) (op : FsOp) : Frame st (doOp st op).1 := doOpW_frame st op true

theorem doWrites_frame (p : Path) (w : Bool) (ws : List Bytes) : ∀ st : FSnap, Frame st (doWrites st p w ws).1 := by
  induction ws with
  | nil => intro st; exact Frame.refl st
  | cons x xs ih =>
    intro st
    exact Frame.ite_fst (fun _ => (doOpW_frame st _ w).trans (ih _)) (fun _ => doOpW_frame st _ w)

theorem fFlushDue_frame (st : FSnap) (n : Nat) : Frame st (fFlushDue st n).1 :=
  have q := doOpW_frame st (.write .main st.s.buf) (!st.fhClosed)
  Frame.ite_fst (fun _ => Frame.update st) fun _ =>
    Frame.ite_fst (fun _ => q.trans (Frame.update _)) (fun _ => q.trans (Frame.update _))

theorem fAfterWrite_frame (st : FSnap) (n : Nat) : Frame st (fAfterWrite st n).1 :=
  Frame.ite_fst (fun _ => (Frame.update st).trans (fFlushDue_frame _ n)) (fun _ => Frame.update st)

theorem fAppendBytes_frame (st : FSnap) (l : Bytes) : Frame st (fAppendBytes st l).1 :=
  have q := doWrites_frame .main (!st.fhClosed) (bufWrite st.s.buf l).2 st
  Frame.ite_fst Frame.panic fun _ => Frame.ite_fst (fun _ => Frame.refl st) fun _ =>
    Frame.ite_fst (fun _ => q.trans (Frame.update _))
      (fun _ => q.trans ((Frame.update _).trans (fAfterWrite_frame _ _)))

theorem fCompactFront_frame (st : FSnap) (lines : List Bytes) : Frame st (fCompactFront st lines).1 :=
  have q1 := doOp_frame st (.openTrunc .tmp)
  have q2 := q1.trans (doWrites_frame .tmp true (bufWriteAll [] lines).2 _)
  have q3 : Frame st (if (bufWriteAll [] lines).1 = [] then (_, true) else doOp _ (.write .tmp (bufWriteAll [] lines).1)).1 :=
    Frame.ite_fst (fun _ => q2) (fun _ => q2.trans (doOp_frame _ _))
  have q4 := q3.trans (doOp_frame _ (.sync .tmp))
  -- the early returns, in the order of the code
  Frame.ite_fst (fun _ => q1) fun _ => Frame.ite_fst (fun _ => q2.trans (doOp_frame _ _)) fun _ =>
    Frame.ite_fst (fun _ => q3) fun _ => Frame.ite_fst (fun _ => q4.trans (doOp_frame _ _)) (fun _ => q4.trans (doOp_frame _ _))

theorem fOldFlush_frame (st : FSnap) : Frame st (fOldFlush st) :=
  have q := doOpW_frame st (.write .main st.s.buf) (!st.fhClosed)
  Frame.ite (fun _ => Frame.refl st) fun _ =>
    Frame.ite (fun _ => q.trans (Frame.update _)) (fun _ => q.trans (Frame.update _))

theorem fOldClose_frame (nil : Bool) (st : FSnap) (h : nil = st.nilOnSwap) : Frame st (fOldClose nil st) := by
  have q : Frame st (if st.fh = true then (doOp st (.close .main)).1 else st) :=
    Frame.ite (fun _ => doOp_frame _ _) (fun _ => Frame.refl st)
  cases nil
  · exact q.trans (Frame.update _)
  · exact q.trans (Frame.nil _ (q.nilOnSwap.trans h.symm))

-- what each operation returns is given a name before the next one is looked at: the terms stay small
theorem fSwapTail_frame (st : FSnap) (total : Nat) : Frame st (fSwapTail st total).1 := by
  unfold fSwapTail
  have q8 := doOpW_frame st (.remove .main) (st.mainExists || !st.removeMissingFails)
  generalize doOpW st (.remove .main) (st.mainExists || !st.removeMissingFails) = r8 at q8 ⊢
  refine Frame.ite_fst (fun _ => q8) fun _ => ?_
  dsimp only
  have q9 := (q8.trans (Frame.set_mainExists _ false)).trans (doOp_frame _ (.rename .tmp .main))
  generalize doOp { r8.1 with mainExists := false } (.rename .tmp .main) = r9 at q9 ⊢
  refine Frame.ite_fst (fun _ => q9) fun _ => ?_
  have q10 := (q9.trans (Frame.set_mainExists _ true)).trans (doOp_frame _ (.openAppend .main))
  generalize doOp { r9.1 with mainExists := true } (.openAppend .main) = r10 at q10 ⊢
  exact Frame.ite_fst (fun _ => q10) fun _ => q10.trans (Frame.fresh _ ⟨rfl, rfl, rfl⟩)

theorem old_frame (st : FSnap) : Frame st (fOldClose st.nilOnSwap (fOldFlush st)) :=
  have q := fOldFlush_frame st
  q.trans (fOldClose_frame _ _ q.nilOnSwap.symm)

theorem fCompactSwap_frame (st : FSnap) (total : Nat) : Frame st (fCompactSwap st total).1 :=
  Frame.ite_fst Frame.panic fun _ => (old_frame st).trans (fSwapTail_frame _ _)

theorem fCompact_frame (st : FSnap) : Frame st (fCompact st).1 :=
  have q := fCompactFront_frame st (compactLines Order.id st.s)
  Frame.ite_fst (fun _ => q) (fun _ => q.trans (fCompactSwap_frame _ _))

theorem fAppendLine_frame (st : FSnap) (l : Bytes) : Frame st (fAppendLine st l).1 := by
  have q := fAppendBytes_frame st l
  unfold fAppendLine
  generalize fAppendBytes st l = r at q ⊢
  obtain ⟨r, res⟩ := r
  cases res
  · exact Frame.ite_fst (fun _ => q.trans (fCompact_frame _)) (fun _ => q)
  · exact q
  · exact q

theorem fTryAppend_frame (st : FSnap) (l : Bytes) : Frame st (fTryAppend st l) := by
  have q := fAppendLine_frame st l
  unfold fTryAppend
  generalize fAppendLine st l = r at q ⊢
  obtain ⟨r, res⟩ := r
  cases res
  · exact q
  · exact Frame.ite (fun _ => q) (fun _ => q.trans ((Frame.update _).trans (fCompact_frame _)))
  · exact q

theorem fFlush_frame (st : FSnap) : Frame st (fFlush st) :=
  Frame.ite (fun _ => Frame.refl st) fun _ => Frame.ite Frame.panic fun _ => fOldFlush_frame st

/-- change the memory, then `tryAppend` the line that records the change -/
def fRecord (st : FSnap) (ln : Line) : FSnap := fTryAppend { st with s := st.s.note ln } (printLine ln)

theorem fRecord_P (st : FSnap) (ln : Line) (h : P st) : P (fRecord st ln) := (fTryAppend_frame _ _).p h

theorem foldl_fRecord_P (lns : List Line) (st : FSnap) (h : P st) : P (lns.foldl fRecord st) :=
  List.foldlRecOn lns fRecord h fun st h l _ => fRecord_P st l h

/-- the memory of the fault model is that of the lines, whatever the I/O does -/
theorem fRecord_same (st : FSnap) (ln : Line) : SameMem (st.s.note ln) (fRecord st ln).s :=
  have ⟨hm, hl, hr, _⟩ := (fTryAppend_frame { st with s := st.s.note ln } (printLine ln)).keep
  ⟨hm, hr, hl⟩

theorem foldl_fRecord_same (lns : List Line) (st : FSnap) : SameMem (lns.foldl Snap.note st.s) (lns.foldl fRecord st).s :=
  List.foldl_rel (r := fun (s : Snap) (st' : FSnap) => SameMem s st'.s) ⟨rfl, rfl, rfl⟩ fun l _ _ st' h =>
    (h.note l).trans (fRecord_same st' l)

/-- `fJoin`, `fGone`: one record per member, as long as nothing has panicked -/
theorem foldl_fRecord_of_rec {α} (F : FSnap → List α → FSnap) (g : α → Line) (h0 : ∀ st, F st [] = st)
    (h1 : ∀ st x xs, F st (x :: xs) = if st.panicked then st else F (fRecord st (g x)) xs) (xs : List α) :
    ∀ st : FSnap, P st → F st xs = (xs.map g).foldl fRecord st := by
  induction xs with
  | nil => intro st _; exact h0 st
  | cons x xs ih =>
    intro st h
    rw [h1, if_neg h.ok, ih _ (fRecord_P st _ h)]
    rfl

theorem fJoin_eq (ms : List (Name × Addr)) (st : FSnap) (h : P st) :
    fJoin st ms = (ms.map fun p => Line.alive p.1 p.2).foldl fRecord st :=
  foldl_fRecord_of_rec fJoin (fun p => Line.alive p.1 p.2) (fun _ => rfl) (fun _ _ _ => rfl) ms st h

theorem fGone_eq (ns : List Name) (st : FSnap) (h : P st) : fGone st ns = (ns.map Line.notAlive).foldl fRecord st :=
  foldl_fRecord_of_rec fGone Line.notAlive (fun _ => rfl) (fun _ _ _ => rfl) ns st h

-- by rewriting with `Snap.note`'s equation for a variable `t` (see `updateClock_eq`)
theorem fUpdateClock_eq (st : FSnap) (clk : Nat) : fUpdateClock st clk = (clockLines st.s clk).foldl fRecord st := by
  have e : ∀ t, st.s.note (.clock t) = { st.s with lastClock := t } := fun _ => rfl
  unfold fUpdateClock clockLines
  rw [apply_ite (List.foldl fRecord st), List.foldl_cons, List.foldl_nil, List.foldl_nil, fRecord, e]

/-- the sync that ends a leave (skipped on a nil file handle) -/
def fSyncMain (st : FSnap) : FSnap := if st.fh then (doOp st (.sync .main)).1 else st

theorem fSyncMain_frame (st : FSnap) : Frame st (fSyncMain st) := Frame.ite (fun _ => doOp_frame _ _) (fun _ => Frame.refl _)

/-- **One event of the fault model**, while it has not panicked: the records of the same lines as in the
fault-free model (`step_eq`). -/
theorem fStep_eq (st : FSnap) (ev : Ev) (h : P st) : fStep st (.ev ev) =
    match ev with
    | .leave => fSyncMain (fFlush (fRecord st .leave))
    | .timePasses => { st with s := { st.s with flushDue := true } }
    | .forceCompact => (fCompact st).1
    | ev => (evLines st.s ev).foldl fRecord st := by
  -- after member lines the clock is looked at as before them
  have hm : ∀ (lns : List Line) (r : FSnap) (clk : Nat), (∀ ln ∈ lns, ∀ t, ln ≠ .clock t) → r = lns.foldl fRecord st →
      (if st.s.leaving then st else if r.panicked then r else fUpdateClock r clk) =
        List.foldl fRecord st (if st.s.leaving then [] else lns ++ clockLines st.s clk) := by
    intro lns r clk hl e
    have e2 : r.s.lastClock = st.s.lastClock := by
      rw [e]; exact (congrArg RecState.clock (foldl_fRecord_same lns st).1).trans (foldl_note_lastClock lns hl _)
    have hr : P r := e ▸ foldl_fRecord_P lns st h
    rw [if_neg hr.ok, fUpdateClock_eq, apply_ite (List.foldl fRecord st), List.foldl_append, ← e]
    unfold clockLines
    rw [e2]
    rfl
  have hu : ∀ (c : Prop) [Decidable c] (ln : Line), (if st.s.leaving then st else if c then st else fRecord st ln) =
      List.foldl fRecord st (if st.s.leaving then [] else if c then [] else [ln]) := by
    intro c _ ln
    rw [apply_ite (List.foldl fRecord st), apply_ite (List.foldl fRecord st)]
    rfl
  show (if st.panicked then st else _) = _
  rw [if_neg h.ok]
  cases ev with
  | join ms clk => exact hm _ _ clk (aliveLines_ne_clock ms) (fJoin_eq ms st h)
  | gone ns clk => exact hm _ _ clk (goneLines_ne_clock ns) (fGone_eq ns st h)
  | memberOther clk =>
    show (if st.s.leaving then st else fUpdateClock st clk) = List.foldl fRecord st (if st.s.leaving then _ else _)
    rw [fUpdateClock_eq, apply_ite (List.foldl fRecord st)]
    rfl
  | user lt => exact hu _ (.eventClock lt)
  | query lt => exact hu _ (.queryClock lt)
  | clockTick clk => exact fUpdateClock_eq st clk
  | leave => exact if_neg ((fFlush_frame _).p (fRecord_P st .leave h)).ok
  | timePasses => rfl
  | forceCompact => rfl

theorem fStep_P (st : FSnap) (e : FEv) (h : P st) : P (fStep st e) := by
  cases e with
  | recoveryTimePasses => exact h
  | ev ev =>
    rw [fStep_eq st ev h]
    split
    · exact (fSyncMain_frame _).p ((fFlush_frame _).p (fRecord_P st .leave h))
    · exact h
    · exact (fCompact_frame st).p h
    · exact foldl_fRecord_P _ st h

theorem fRun_P (evs : List FEv) : ∀ st : FSnap, P st → P (fRun st evs) := by
  induction evs with
  | nil => intro st h; exact h
  | cons e es ih => intro st h; exact ih _ (fStep_P st e h)

theorem fShutdown_P (st : FSnap) (clk : Nat) (h : P st) : P (fShutdown st clk) := by
  have q : P (fFlush (fUpdateClock st clk)) := by
    rw [fUpdateClock_eq]; exact (fFlush_frame _).p (foldl_fRecord_P _ st h)
  have q2 := (fSyncMain_frame _).p q
  exact ite_prop P (fun _ => h) fun _ => ite_prop P (fun _ => q) fun _ =>
    ite_prop P (fun _ => (doOp_frame _ _).p q2) (fun _ => q2)

theorem fInit_P (rj : Bool) (mc : Nat) (fault : Option Nat) : P (fInit rj mc fault) := ⟨rfl, rfl, rfl⟩

/-- current code shape, well-formed memory, no leave in progress, the configured rejoin flag -/
structure Mem (rj : Bool) (st : FSnap) : Prop where
  shape : st.removeMissingFails = false
  wf : WFRec st.s.mem
  leaving : st.s.leaving = false
  rejoin : st.s.rejoin = rj

theorem Mem.of_keep {rj : Bool} {a b : FSnap} (h : Mem rj a) (k : KeepM a b) : Mem rj b :=
  have ⟨km, kl, kr, kf⟩ := k
  ⟨kf.trans h.shape, by rw [km]; exact h.wf, kl.trans h.leaving, kr.trans h.rejoin⟩

theorem foldl_fRecord_mem (rj : Bool) (lns : List Line) (st : FSnap) (h : Mem rj st) (hw : ∀ ln ∈ lns, WFLine ln)
    (hn : Line.leave ∉ lns) : Mem rj (lns.foldl fRecord st) :=
  List.foldlRecOn lns fRecord h fun st h l hl =>
    have hne : l ≠ .leave := fun e => hn (e ▸ hl)
    have hm : Mem rj ({ st with s := st.s.note l } : FSnap) :=
      ⟨h.shape, h.wf.note (hw l hl) hne, (note_leaving st.s hne).trans h.leaving, (note_rejoin st.s l).trans h.rejoin⟩
    hm.of_keep (fTryAppend_frame _ _).keep

/-- the events of a faulty run: well formed, no leave; or the recovery interval elapsing -/
def WFFEv : FEv → Prop
  | .ev e => WFEv e ∧ e ≠ .leave
  | .recoveryTimePasses => True

theorem fStep_mem (rj : Bool) (st : FSnap) (fe : FEv) (hfe : WFFEv fe) (h : Mem rj st) (hp : P st) : Mem rj (fStep st fe) := by
  cases fe with
  | recoveryTimePasses => exact h.of_keep ⟨rfl, rfl, rfl, rfl⟩
  | ev ev =>
    rw [fStep_eq st ev hp]
    split
    · exact absurd rfl hfe.2
    · exact h.of_keep ⟨rfl, rfl, rfl, rfl⟩
    · exact h.of_keep (fCompact_frame st).keep
    · exact foldl_fRecord_mem rj _ st h (evLines_wf st.s hfe.1) (leave_not_mem_evLines st.s hfe.2)

theorem fRun_mem (rj : Bool) (fevs : List FEv) : ∀ st : FSnap, Mem rj st → P st → (∀ fe ∈ fevs, WFFEv fe) → Mem rj (fRun st fevs) := by
  induction fevs with
  | nil => intro st h _ _; exact h
  | cons fe es ih =>
    intro st h hp hw
    exact ih _ (fStep_mem rj st fe (hw fe List.mem_cons_self) h hp) (fStep_P st fe hp) (fun x hx => hw x (List.mem_cons_of_mem _ hx))

theorem fInit_mem (rj : Bool) (mc : Nat) (fault : Option Nat) : Mem rj (fInit rj mc fault) :=
  ⟨rfl, WFRec.empty, rfl, rfl⟩

theorem fFlush_keep (st : FSnap) : KeepM st (fFlush st) := (fFlush_frame st).keep

end SerfProofs.SnapshotFault
