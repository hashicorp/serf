/-
The node model (`SerfModel.Node`) seen from the running local node, for C03: the invariant "the node is
running and lists itself as alive" (`SelfInv`), and what the intents an op applies (`NodeSteps.parts`)
do while the node runs: none but a join about itself touches its own record, a newer leave claim about
it leaves a greater refuting join pending, and none takes a spawned refutation away.  Also the names
C03 and the cluster proofs use for the pieces of `MergeRemoteState`.
Core Lean only.
-/
import SerfProofs.Lemmas.NodeBook
namespace SerfProofs.NodeSelf
open SerfModel SerfModel.Node SerfProofs.NodeBook SerfProofs.NodeSteps

theorem succ_mod_two64 (c : Nat) (h : c < two64 - 1) : (c + 1) % two64 = c + 1 :=
  Nat.mod_eq_of_lt (Nat.add_lt_of_lt_sub h)

theorem lt_witness {c v : Nat} (h : v < two64 - 1) : v < witness c v := by
  unfold witness
  split
  · assumption
  · rw [succ_mod_two64 v h]; exact Nat.lt_succ_self v

/-- The node `MergeRemoteState` runs its two loops on: the remote clock (minus one) is witnessed. -/
def mergeStart (n : Node) (lt : Nat) : Node :=
  if 0 < lt then { n with clock := witness n.clock (lt - 1) } else n

theorem merge_eq (n : Node) (lt : Nat) (status : List (Name × Nat)) (left : List Name) (wall : Nat) :
    merge n lt status left wall =
      (mergeJoins (mergeLefts (mergeStart n lt) status wall left).1 left wall status,
       { events := (mergeLefts (mergeStart n lt) status wall left).2 }) := rfl

theorem mergeStart_eq (n : Node) (lt : Nat) : ∃ c, mergeStart n lt = { n with clock := c } := by
  unfold mergeStart
  split
  · exact ⟨_, rfl⟩
  · exact ⟨n.clock, rfl⟩

/-- The Lamport time `MergeRemoteState` puts on its leave claim about a member the remote side
lists as left: `StatusLTimes[name] + 1` (uint64). -/
def mergeClaim (status : List (Name × Nat)) (x : Name) : Nat := (((alookup status x).getD 0) + 1) % two64

theorem mergeLefts_life (status : List (Name × Nat)) (wall : Nat) (xs : List Name) :
    ∀ n : Node, (mergeLefts n status wall xs).1.life = n.life := by
  intro n
  rw [mergeLefts_eq_foldl]
  exact List.foldlRecOn (motive := fun m : Node => m.life = n.life) _ _ rfl fun m hm c _ => (c.run_life m).trans hm

/-- The second merge loop skips the names listed as left. -/
theorem mergeJoins_lookup_of_mem_left (left : List Name) (wall : Nat) (st : List (Name × Nat)) (y : Name)
    (hy : y ∈ left) : ∀ n : Node, alookup (mergeJoins n left wall st).members y = alookup n.members y := by
  intro n
  rw [mergeJoins_eq_foldl]
  refine List.foldlRecOn (motive := fun m : Node => alookup m.members y = alookup n.members y) _ _ rfl ?_
  intro m hm c hc
  obtain ⟨q, hq, rfl⟩ := List.mem_map.mp hc
  rw [Claim.run_lookup_ne _ m y, hm]
  intro e
  have e' : y = q.1 := e
  exact (of_decide_eq_true (List.mem_filter.mp hq).2) (e' ▸ hy)

/-- The intents a merge applies: a leave claim at `mergeClaim` for every name listed as left, a join intent
for every status entry whose name is not. -/
theorem mem_parts_merge {n : Node} {lt : Nat} {st : List (Name × Nat)} {lf : List Name} {w : Nat} {c : Claim}
    (h : c ∈ (parts n (.merge lt st lf w)).2) :
    (∃ y ∈ lf, c = .leave y (mergeClaim st y) false w) ∨ (∃ q ∈ st, q.1 ∉ lf ∧ c = .join q.1 q.2 w) := by
  rcases List.mem_append.mp h with h | h
  · obtain ⟨y, hy, rfl⟩ := List.mem_map.mp h
    exact Or.inl ⟨y, hy, rfl⟩
  · obtain ⟨q, hq, rfl⟩ := List.mem_map.mp h
    exact Or.inr ⟨q, (List.mem_filter.mp hq).1, of_decide_eq_true (List.mem_filter.mp hq).2, rfl⟩

theorem mergeJoins_pending (left : List Name) (wall : Nat) (st : List (Name × Nat)) (n : Node) :
    (mergeJoins n left wall st).pending = n.pending := by
  rw [mergeJoins_eq_foldl]
  refine List.foldlRecOn (motive := fun m : Node => m.pending = n.pending) _ _ rfl ?_
  intro m hm c hc
  obtain ⟨q, _, rfl⟩ := List.mem_map.mp hc
  exact (hji_pending m q.1 q.2 wall).trans hm

/-- A leave claim about the running local node is refuted or stale, so only a join about it could touch
its own record. -/
theorem claims_self (cs : List Claim) (n : Node) (hl : n.life = .alive)
    (hj : ∀ y lt w, Claim.join y lt w ∈ cs → y ≠ n.name) :
    (cs.foldl Claim.run n).name = n.name ∧ (cs.foldl Claim.run n).life = .alive ∧
      alookup (cs.foldl Claim.run n).members n.name = alookup n.members n.name := by
  refine List.foldlRecOn (motive := fun m : Node => m.name = n.name ∧ m.life = .alive ∧
    alookup m.members n.name = alookup n.members n.name) cs _ ⟨rfl, hl, rfl⟩ ?_
  rintro m ⟨hn, hml, hr⟩ c hc
  refine ⟨(c.run_name m).trans hn, (c.run_life m).trans hml, Eq.trans ?_ hr⟩
  cases c with
  | leave x lt p w =>
    by_cases hx : n.name = x
    · subst hx
      show alookup (handleLeaveIntent m n.name lt p w).1.members n.name = _
      rw [hli_rec, if_pos ⟨hn.symm, hml⟩]
    · exact hli_lookup_ne m x lt p w _ hx
  | join x lt w => exact hji_lookup_ne m x lt w _ fun e => hj x lt w hc e.symm

theorem claims_pending (cs : List Claim) (n : Node) : ∃ extra, (cs.foldl Claim.run n).pending = n.pending ++ extra := by
  refine List.foldlRecOn (motive := fun m : Node => ∃ extra, m.pending = n.pending ++ extra) cs _ ⟨[], (List.append_nil _).symm⟩ ?_
  rintro m ⟨e, he⟩ c _
  obtain ⟨e', he'⟩ := c.run_pending m
  exact ⟨e ++ e', by rw [he', he, List.append_assoc]⟩

/-- Up to the claim the own record is what it was, so the claim is refuted; what follows cannot cancel the
spawned join. -/
theorem claims_refute (cs : List Claim) (n : Node) (lt t0 w : Nat) (p : Bool) (hl : n.life = .alive)
    (hmem : Claim.leave n.name lt p w ∈ cs) (hj : ∀ y lt w, Claim.join y lt w ∈ cs → y ≠ n.name)
    (h0 : ltimeOf n n.name = some t0) (hnew : t0 < lt) (hmax : lt < two64 - 1) :
    ∃ t ∈ (cs.foldl Claim.run n).pending, lt < t := by
  obtain ⟨a, b, rfl⟩ := List.append_of_mem hmem
  obtain ⟨hn, hl', hr⟩ := claims_self a n hl (fun y lt w hy => hj y lt w (List.mem_append_left _ hy))
  obtain ⟨m, hm, rfl⟩ := ltimeOf_eq_iff.mp h0
  obtain ⟨e, he⟩ := claims_pending b (Claim.run (a.foldl Claim.run n) (.leave n.name lt p w))
  refine ⟨witness (a.foldl Claim.run n).clock lt, ?_, lt_witness hmax⟩
  rw [List.foldl_append, List.foldl_cons, he]
  apply List.mem_append_left
  show _ ∈ (handleLeaveIntent (a.foldl Claim.run n) n.name lt p w).1.pending
  rw [← hn, hli_refute p w (by rw [hn, hr]; exact hm) hnew hl']
  exact List.mem_append_right _ (List.mem_singleton_self _)

structure SelfInv (me : Name) (n : Node) : Prop where
  name : n.name = me
  life : n.life = .alive
  status : statusOf n me = some .alive

theorem SelfInv.congr {self : Name} {n n' : Node} (h : SelfInv self n) (hn : n'.name = n.name)
    (hl : n'.life = n.life) (hr : alookup n'.members self = alookup n.members self) : SelfInv self n' :=
  ⟨hn.trans h.name, hl.trans h.life, by unfold statusOf; rw [hr]; exact h.status⟩

theorem SelfInv.of_rec {self : Name} {n n' : Node} (h : SelfInv self n) (hn : n'.name = n.name)
    (hl : n'.life = n.life) (f : Member → Member) (hf : ∀ m, m.status = .alive → (f m).status = .alive)
    (hr : alookup n'.members self = (alookup n.members self).map f) : SelfInv self n' := by
  refine ⟨hn.trans h.name, hl.trans h.life, ?_⟩
  obtain ⟨m, hm, hs⟩ := statusOf_eq_iff.mp h.status
  rw [statusOf_eq_iff]
  exact ⟨f m, by rw [hr, hm]; rfl, hf m hs⟩

theorem self_claim (self : Name) (c : Claim) (n : Node) (h : SelfInv self n) : SelfInv self (c.run n) := by
  by_cases hx : self = c.subject
  · cases c with
    | leave x lt p w =>
      obtain rfl : self = x := hx
      exact h.congr (Claim.run_name _ n) (Claim.run_life _ n)
        ((hli_rec n self lt p w).trans (if_pos ⟨h.name.symm, h.life⟩))
    | join x lt w =>
      obtain rfl : self = x := hx
      exact h.of_rec (Claim.run_name _ n) (Claim.run_life _ n) (joinUpd lt)
        (fun m hs => (joinUpd_status lt m (by rw [hs]; simp)).trans hs) (hji_rec n self lt w)
  · exact h.congr (c.run_name n) (c.run_life n) (c.run_lookup_ne n self hx)

theorem self_handleNodeJoin (self : Name) (n : Node) (x : Name) (h : SelfInv self n) :
    SelfInv self (handleNodeJoin n x).1 := by
  by_cases hx : self = x
  · subst hx
    obtain ⟨m, hm, _⟩ := statusOf_eq_iff.mp h.status
    refine h.of_rec (hnj_bookOnly n self).name (hnj_bookOnly n self).life
      (fun m => { m with status := .alive, leaveTime := 0 }) (fun _ _ => rfl) ?_
    rw [hnj_rec, hm]; rfl
  · exact h.congr (hnj_bookOnly n x).name (hnj_bookOnly n x).life (hnj_lookup_ne n x self hx)

theorem self_reap (self : Name) (n : Node) (now : Nat) (ov : Name → Nat → Nat) (hb : BookInv n)
    (h : SelfInv self n) : SelfInv self (reap n now ov).1 :=
  h.congr rfl rfl (reap_spares hb now ov self (by rw [h.status]; simp) (by rw [h.status]; simp))

end SerfProofs.NodeSelf
