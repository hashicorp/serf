/-!
Searching tables of names by an injective numeric code.

A `String` is a UTF-8 byte array with a validity proof, so the kernel decides `s = t` on two literals by
turning both into byte lists and comparing these element by element; a search of a table of names
(`List.contains`, `==`) repeats that comparison for every pair it tries.  `code s` folds the bytes of `s` into
one natural number (bijective base 256), which the kernel computes once per literal and then compares as a
binary number: after rewriting with `beq_code` / `contains_code`, `decide +kernel` pays for the conversions only.
-/
namespace SerfProofs

def codeL : List UInt8 → Nat
  | [] => 0
  | b :: l => codeL l * 256 + b.toNat + 1

theorem codeL_inj : ∀ {l m : List UInt8}, codeL l = codeL m → l = m
  | [], [], _ => rfl
  | [], _ :: _, h => by simp only [codeL] at h; omega
  | _ :: _, [], h => by simp only [codeL] at h; omega
  | a :: l, b :: m, h => by
    have := a.toNat_lt_size
    have := b.toNat_lt_size
    simp only [codeL, UInt8.size] at *
    rw [codeL_inj (show codeL l = codeL m by omega), UInt8.toNat_inj.1 (show a.toNat = b.toNat by omega)]

def code (s : String) : Nat := codeL s.toByteArray.data.toList

theorem code_inj {s t : String} : code s = code t ↔ s = t :=
  ⟨fun h => String.toByteArray_inj.1 (ByteArray.ext (Array.toList_inj.1 (codeL_inj h))), fun h => h ▸ rfl⟩

theorem beq_code (s t : String) : (s == t) = (code s == code t) := by
  rw [Bool.eq_iff_iff, beq_iff_eq, beq_iff_eq, code_inj]

theorem contains_code (l : List String) (s : String) : l.contains s = (l.map code).contains (code s) := by
  simp only [List.contains_eq_any_beq, List.any_map, beq_code, Function.comp_def]

end SerfProofs
