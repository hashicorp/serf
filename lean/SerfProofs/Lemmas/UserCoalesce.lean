/-
`userEventCoalescer` (serf/coalesce_user.go).  `Coalesce` and the specification (`maxLt`, `newest`) move
the entry of the event's name by the same function `bump`; so the map represents the events received
since the last flush (`Rep`), and a flush filtered by name is `newest` (`Rep.flush_filter`).
-/
import SerfModel.Model.UserCoalesce
import SerfProofs.Lemmas.Assoc
namespace SerfProofs.UserCoalesce
open SerfModel SerfModel.UserCoalesce

/-- What `Coalesce` does to the entry `v` of the event's name; the specification (`maxLt`, `newest`)
moves by the same function (`spec_bump`). -/
def bump (v : Nat × List UserEv) (e : UserEv) : Nat × List UserEv :=
  if v.1 < e.lt then (e.lt, [e]) else if v.1 = e.lt then (v.1, v.2 ++ [e]) else v

/-- A name without an entry behaves like one with the entry `(0, [])`; the map is left alone only
when it holds the bumped entry already. -/
theorem coalesce_cases (c : UC) (e : UserEv) :
    coalesce c e = ainsert c e.name (bump ((alookup c e.name).getD (0, [])) e) ∨
    (coalesce c e = c ∧ alookup c e.name = some (bump ((alookup c e.name).getD (0, [])) e)) := by
  unfold coalesce bump
  cases h : alookup c e.name with
  | none =>
    refine .inl ?_
    by_cases h0 : 0 < e.lt
    · simp [h0]
    · have : e.lt = 0 := by omega
      simp [this]
  | some v =>
    by_cases h1 : v.1 < e.lt
    · exact .inl (by simp [h1])
    · by_cases h2 : v.1 = e.lt
      · exact .inl (by simp [h2])
      · exact .inr (by simp [h1, h2])

theorem alookup_coalesce (c : UC) (e : UserEv) (n : String) :
    alookup (coalesce c e) n =
      if e.name == n then some (bump ((alookup c n).getD (0, [])) e) else alookup c n := by
  by_cases hn : e.name = n
  · subst hn
    rcases coalesce_cases c e with h | ⟨h, hv⟩
    · simp [h, alookup_ainsert_self]
    · simp [h, ← hv]
  · have hne : n ≠ e.name := fun h => hn h.symm
    rcases coalesce_cases c e with h | ⟨h, -⟩ <;> simp [h, hn, alookup_ainsert_ne hne]

theorem akeys_coalesce_nodup (c : UC) (e : UserEv) (h : (akeys c).Nodup) : (akeys (coalesce c e)).Nodup := by
  rcases coalesce_cases c e with h' | ⟨h', -⟩ <;> rw [h']
  · exact akeys_ainsert_nodup h
  · exact h

theorem maxLt_append_single (p : List UserEv) (e : UserEv) (n : String) :
    maxLt (p ++ [e]) n = if e.name == n then max (maxLt p n) e.lt else maxLt p n := by
  simp [maxLt, List.foldl_append]

private theorem foldl_max_ge (n : String) (p : List UserEv) : ∀ a : Nat,
    a ≤ p.foldl (fun acc e => if e.name == n then max acc e.lt else acc) a ∧
    ∀ x ∈ p, x.name = n → x.lt ≤ p.foldl (fun acc e => if e.name == n then max acc e.lt else acc) a := by
  induction p with
  | nil => intro a; simp
  | cons y p ih =>
    intro a
    obtain ⟨h1, h2⟩ := ih (if y.name == n then max a y.lt else a)
    simp only [List.foldl_cons, List.forall_mem_cons]
    refine ⟨?_, fun hy => ?_, h2⟩
    · by_cases hy : y.name == n <;> simp only [hy, Bool.false_eq_true, ↓reduceIte] at h1 ⊢ <;> omega
    · simp only [hy, beq_self_eq_true, ↓reduceIte] at h1 ⊢; omega

theorem le_maxLt {p : List UserEv} {x : UserEv} {n : String} (hx : x ∈ p) (hn : x.name = n) :
    x.lt ≤ maxLt p n := (foldl_max_ge n p 0).2 x hx hn

theorem maxLt_of_no_name (p : List UserEv) (n : String) (h : p.any (·.name == n) = false) : maxLt p n = 0 := by
  unfold maxLt
  induction p with
  | nil => rfl
  | cons y p ih =>
    simp only [List.any_cons, Bool.or_eq_false_iff] at h
    simp only [List.foldl_cons, h.1, Bool.false_eq_true, ↓reduceIte]
    exact ih h.2

theorem newest_of_no_name (p : List UserEv) (n : String) (h : p.any (·.name == n) = false) : newest p n = [] := by
  unfold newest
  rw [List.filter_eq_nil_iff]
  intro x hx
  have : (x.name == n) = false := by
    rw [List.any_eq_false] at h
    simpa using h x hx
  simp [this]

theorem newest_name {p : List UserEv} {n : String} {x : UserEv} (h : x ∈ newest p n) : x.name = n := by
  have := (List.mem_filter.mp h).2
  simp only [Bool.and_eq_true, beq_iff_eq] at this
  exact this.1

theorem filter_above_maxLt (p : List UserEv) (n : String) (t : Nat) (h : maxLt p n < t) :
    p.filter (fun x => x.name == n && x.lt == t) = [] := by
  rw [List.filter_eq_nil_iff]
  intro x hx hc
  simp only [Bool.and_eq_true, beq_iff_eq] at hc
  have := le_maxLt hx hc.1
  omega

theorem spec_bump (p : List UserEv) (e : UserEv) :
    (maxLt (p ++ [e]) e.name, newest (p ++ [e]) e.name) = bump (maxLt p e.name, newest p e.name) e := by
  unfold bump newest
  rw [maxLt_append_single]
  simp only [beq_self_eq_true, ↓reduceIte, List.filter_append]
  rcases Nat.lt_trichotomy (maxLt p e.name) e.lt with h | h | h
  · rw [if_pos h, Nat.max_eq_right (Nat.le_of_lt h), filter_above_maxLt p _ _ h]
    simp
  · rw [if_neg (by omega), if_pos h, ← h]
    simp [h]
  · have hne : ¬ e.lt = maxLt p e.name := by omega
    rw [if_neg (by omega), if_neg (by omega), Nat.max_eq_left (Nat.le_of_lt h)]
    simp [hne]

/-- What the map holds for `n` after the events `p`: nothing, or the highest time and the events carrying it. -/
def entry (p : List UserEv) (n : String) : Option (Nat × List UserEv) :=
  if p.any (·.name == n) then some (maxLt p n, newest p n) else none

theorem entry_getD (p : List UserEv) (n : String) : (entry p n).getD (0, []) = (maxLt p n, newest p n) := by
  unfold entry
  cases h : p.any (·.name == n) with
  | true => rfl
  | false => simp [maxLt_of_no_name p n h, newest_of_no_name p n h]

theorem entry_append (p : List UserEv) (e : UserEv) (n : String) :
    entry (p ++ [e]) n = if e.name == n then some (bump (maxLt p n, newest p n) e) else entry p n := by
  unfold entry
  by_cases hn : e.name = n
  · subst hn
    simp [spec_bump]
  · simp [hn, maxLt_append_single, newest, List.filter_append]

/-- `c` represents the events `p` received since the last flush. -/
def Rep (c : UC) (p : List UserEv) : Prop := (akeys c).Nodup ∧ ∀ n, alookup c n = entry p n

theorem Rep.nil : Rep [] [] := ⟨by simp [akeys], fun _ => rfl⟩

theorem Rep.step {c : UC} {p : List UserEv} (h : Rep c p) (e : UserEv) : Rep (coalesce c e) (p ++ [e]) :=
  ⟨akeys_coalesce_nodup c e h.1, fun n => by rw [alookup_coalesce, entry_append, h.2 n, entry_getD]⟩

theorem Rep.fold (q : List UserEv) : ∀ (c : UC) (p : List UserEv), Rep c p → Rep (q.foldl coalesce c) (p ++ q) := by
  induction q with
  | nil => intro c p h; simpa using h
  | cons e q ih =>
    intro c p h
    have := ih (coalesce c e) (p ++ [e]) (h.step e)
    simpa using this

theorem flatMap_filter_name (l : UC) (hnd : (akeys l).Nodup)
    (hnames : ∀ k v, (k, v) ∈ l → ∀ x ∈ v.2, x.name = k) (n : String) :
    (l.flatMap (·.2.2)).filter (·.name == n) = ((alookup l n).map (·.2)).getD [] := by
  induction l with
  | nil => rfl
  | cons a rest ih =>
    obtain ⟨k, v⟩ := a
    obtain ⟨hk, hnd'⟩ : k ∉ akeys rest ∧ (akeys rest).Nodup := List.nodup_cons.mp hnd
    have hev : ∀ x ∈ v.2, x.name = k := hnames k v List.mem_cons_self
    simp only [List.flatMap_cons, List.filter_append, alookup_cons,
      ih hnd' fun k' v' hm => hnames k' v' (List.mem_cons_of_mem _ hm)]
    by_cases hkn : k = n
    · subst hkn
      have hall : v.2.filter (·.name == k) = v.2 := List.filter_eq_self.mpr fun x hx => by simp [hev x hx]
      simp [hall, (alookup_eq_none_iff rest k).mpr hk]
    · have hnone : v.2.filter (·.name == n) = [] :=
        List.filter_eq_nil_iff.mpr fun x hx hc => hkn (by rw [← hev x hx]; simpa using hc)
      simp [hnone, hkn]

theorem Rep.flush_filter {c : UC} {p : List UserEv} (h : Rep c p) (n : String) :
    (flush c).2.filter (·.name == n) = newest p n := by
  have hnames : ∀ k v, (k, v) ∈ c → ∀ x ∈ v.2, x.name = k := by
    intro k v hm x hx
    have hv := h.2 k ▸ alookup_of_mem_nodup h.1 hm
    have hv' : v = (maxLt p k, newest p k) := by simpa [hv] using entry_getD p k
    rw [hv'] at hx
    exact newest_name hx
  rw [flush, flatMap_filter_name c h.1 hnames, h.2, entry]
  cases ha : p.any (·.name == n) with
  | true => rfl
  | false => simp [newest_of_no_name p n ha]

end SerfProofs.UserCoalesce
