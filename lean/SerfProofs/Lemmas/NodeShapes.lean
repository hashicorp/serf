/-
The REGENERATED TIE between the Go source of the membership state machine and the hand-written
model `SerfModel.Model.Node` / `SerfModel.Model.Cluster`.

`SerfModel.Gen.NodeShapes` is produced by `extract/nodeshapes.go` (go/ast) on every check run from
serf/serf.go and serf/delegate.go: the decisive statements, guards and statement ORDERS, printed
canonically, plus a few derived booleans / numbers.  A `…_shape` theorem says that the generated
definition is literally what the model was written against (an edit of the Go code changes the Gen
file and the `rfl` no longer holds).  The extractor NORMALISES every function first, so the literals
are in canonical names — receiver `recv`, parameters `p0,p1,…`, other variables `v0,v1,…` in order of
definition — with literal constants resolved, single-assignment pure locals inlined, `a > b` written
`b < a`, no `else` after a returning branch, `xs[i]` of a range loop written as the loop's value
variable.  A renaming or one of these respellings does not change the Gen file; the original Go is
quoted in a `-- Go:` comment next to each literal.  `removeOldMember` is not held as text at all: the
extractor emits a semantic summary, which `removeOldSem` interprets (`gen_removeOld_semantics`).
The other theorems connect a generated fact to the corresponding parameter of the model (strict vs
non-strict comparison, `+ 1`, list clean-up, statement order …) and, where the shape is DECISIVE,
evaluate what the model would do with the other shape.
-/
import SerfModel.Gen.NodeShapes
import SerfModel.Model.Node
import SerfModel.Model.Cluster
import SerfProofs.Lemmas.NodeSteps
namespace SerfProofs.NodeShapes
open SerfModel SerfModel.Node SerfModel.Gen.NodeShapes SerfProofs.NodeSteps

theorem gen_reap_header_shape :
    -- Go: func (s *Serf) reap(old []*memberState, now time.Time, timeout time.Duration)   [old=p0 now=p1 timeout=p2]
    -- Go: n := len(old); for i := 0; i < n; i++ { … }; return old                        [n=v0 i=v1]
    reapInit = "v0 := len(p0)" ∧ reapForInit = "v1 := 0" ∧ reapCond = "v1 < v0" ∧ reapPost = "v1++" ∧
    reapAfterLoop = ["return p0"] ∧
    -- the bound is the hand-maintained counter: `n := len(old)` before the loop, one `n--` after the shrink
    reapBoundTracksShrink = true := ⟨rfl, rfl, rfl, rfl, rfl, rfl⟩

theorem gen_reap_keep_guard_shape :
    -- Go: if now.Sub(m.leaveTime) <= memberTimeout { continue }                           [m=v2 memberTimeout=v3]
    reapKeepGuard = "p1.Sub(v2.leaveTime) <= v3" ∧ reapKeepsAtEquality = true := ⟨rfl, rfl⟩

theorem gen_reap_pre_guard_shape :
    reapPreGuardStmts = [
      -- Go: m := old[i]
      "v2 := p0[v1]",
      -- Go: memberTimeout := timeout
      "v3 := p2",
      -- Go: if s.config.ReconnectTimeoutOverride != nil { memberTimeout = s.config.ReconnectTimeoutOverride.ReconnectTimeout(&m.Member, memberTimeout) }
      "if recv.config.ReconnectTimeoutOverride != nil { v3 = recv.config.ReconnectTimeoutOverride.ReconnectTimeout(&v2.Member, v3) }"] ∧
    reapOverrideApplied = true := ⟨rfl, rfl⟩

theorem gen_reap_delete_shape :
    reapDeleteStmts = [
      -- Go: old[i], old[n-1] = old[n-1], nil; old = old[:n-1]; n--; i--; s.eraseNode(m)
      "p0[v1], p0[v0-1] = p0[v0-1], nil",
      "p0 = p0[:v0-1]",
      "v0--",
      "v1--",
      "recv.eraseNode(v2)"] ∧
    reapRechecksSlot = true := ⟨rfl, rfl⟩

theorem gen_reap_calls_shape :
    reapCalls = [
      -- Go (handleReap): now := time.Now()  [now=v0];  s.failedMembers = s.reap(s.failedMembers, now, s.config.ReconnectTimeout); …
      "recv.failedMembers = recv.reap(recv.failedMembers, v0, recv.config.ReconnectTimeout)",
      "recv.leftMembers = recv.reap(recv.leftMembers, v0, recv.config.TombstoneTimeout)",
      "reapIntents(recv.recentIntents, v0, recv.config.RecentIntentTimeout)"] := rfl

/-- Go keeps an entry when `now.Sub(leaveTime) <= memberTimeout` ⇔ the model expires it on the
strict `>`; the timeout compared with is the overridden one (`ov x timeout`). -/
theorem gen_reap_keep_guard_matches_model :
    reapKeepsAtEquality = true ∧ reapOverrideApplied = true ∧
    ∀ (ms : List (Name × Member)) (now : Nat) (ov : Name → Nat → Nat) (t : Nat) (x : Name),
      expired ms now ov t x = decide (now - ((alookup ms x).map (·.leaveTime)).getD 0 > ov x t) :=
  ⟨rfl, rfl, fun _ _ _ _ _ => rfl⟩

/-- exactly at the timeout the entry is kept, one tick later it is reaped; an override that
prolongs the timeout is honoured -/
theorem gen_reap_keep_at_equality_example :
    reapKeepsAtEquality = true ∧
    expired [("a", { status := .failed, ltime := 0, leaveTime := 5 })] 15 (fun _ t => t) 10 "a" = false ∧
    expired [("a", { status := .failed, ltime := 0, leaveTime := 5 })] 16 (fun _ t => t) 10 "a" = true ∧
    expired [("a", { status := .failed, ltime := 0, leaveTime := 5 })] 16 (fun _ t => t + 1) 10 "a" = false :=
  ⟨rfl, by decide +kernel⟩

/-- the three reap statements of `handleReap` against the model's `reap`: failed list with
`ReconnectTimeout`, THEN left list with `TombstoneTimeout` (over the members map as already
reaped), THEN the intents with `RecentIntentTimeout` -/
theorem gen_reap_calls_match_model (n : Node) (now : Nat) (ov : Name → Nat → Nat) :
    reapCalls.length = 3 ∧
    (reap n now ov).1.failed = (reapList n.members n.failed now ov n.cfg.reconnect).1 ∧
    (reap n now ov).1.left =
      (reapList (eraseAll n.members (reapList n.members n.failed now ov n.cfg.reconnect).2)
        n.left now ov n.cfg.tombstone).1 ∧
    (reap n now ov).1.intents = reapIntents n.intents now n.cfg.intentTimeout :=
  ⟨rfl, rfl, rfl, rfl⟩

/-- The loop shape is decisive.  This is the model's `reapLoop` for the SAME loop WITHOUT `i--`
after a removal (`for i := 0; i < len(old); i++ { …; swap-delete }`): the element swapped into the
freed slot is never examined. -/
def reapLoopNoRecheck (exp : Name → Bool) : Nat → List Name → Nat → List Name → List Name × List Name
  | 0, old, _, acc => (old, acc)
  | fuel + 1, old, i, acc =>
    match old[i]? with
    | none => (old, acc)
    | some m =>
      if exp m then reapLoopNoRecheck exp fuel (swapRemove old i) (i + 1) (acc ++ [m])
      else reapLoopNoRecheck exp fuel old (i + 1) acc

theorem gen_reap_recheck_decisive :
    reapRechecksSlot = true ∧
    (reapLoop (fun _ => true) 3 ["a", "b", "c"] 0 []).1 = [] ∧
    (reapLoopNoRecheck (fun _ => true) 3 ["a", "b", "c"] 0 []).1 ≠ [] := ⟨rfl, rfl, by decide +kernel⟩

/-- the statements of the delete branch against `reapLoop`: one expired element at slot `i` is
swap-removed, erased, and the SAME slot is looked at next -/
theorem gen_reap_delete_matches_model (exp : Name → Bool) (fuel i : Nat) (old acc : List Name) (m : Name)
    (hm : old[i]? = some m) (he : exp m = true) :
    reapRechecksSlot = true ∧
    reapLoop exp (fuel + 1) old i acc = reapLoop exp fuel (swapRemove old i) i (acc ++ [m]) := by
  refine ⟨rfl, ?_⟩
  simp [reapLoop, hm, he]

/-- `old[i], old[n-1] = old[n-1], nil; old = old[:n-1]` is `swapRemove` -/
theorem gen_reap_swap_example :
    reapDeleteStmts.take 2 = ["p0[v1], p0[v0-1] = p0[v0-1], nil", "p0 = p0[:v0-1]"] ∧
    swapRemove ["a", "b", "c", "d"] 1 = ["a", "d", "c"] ∧ swapRemove ["a"] 0 = [] ∧
    swapRemove ["a", "b"] 1 = ["a"] := ⟨rfl, rfl, rfl, rfl⟩

theorem gen_leave_guards_shape :
    -- Go: func (s *Serf) handleNodeLeaveIntent(leaveMsg *messageLeave) bool      [leaveMsg=p0 state=v0 member=v1 ok=v2]
    -- Go: leaveMsg.LTime <= member.statusLTime
    leaveStaleGuard = "p0.LTime <= v1.statusLTime" ∧
    -- Go: leaveMsg.Node == s.config.NodeName && state == SerfAlive
    leaveRefuteGuard = "p0.Node == recv.config.NodeName && v0 == SerfAlive" ∧
    -- Go: go s.broadcastJoin(s.clock.Time()); return false
    leaveRefuteCall = "go recv.broadcastJoin(recv.clock.Time())" ∧
    leaveRefuteStmts = ["go recv.broadcastJoin(recv.clock.Time())", "return false"] := ⟨rfl, rfl, rfl, rfl⟩

theorem gen_leave_order_shape :
    leaveWitnessFirst = true ∧ leaveSetsTimeBeforeSwitch = true ∧ leaveGuardsBeforeSetTime = true ∧
    leavePruneAfterListUpdate = true := ⟨rfl, rfl, rfl, rfl⟩

theorem gen_leave_skeleton_shape :
    leaveSkeleton = [
      -- Go: state := s.State()
      "v0 := recv.State()",
      -- Go: s.clock.Witness(leaveMsg.LTime)
      "recv.clock.Witness(p0.LTime)",
      "recv.memberLock.Lock()",
      "defer recv.memberLock.Unlock()",
      -- Go: member, ok := s.members[leaveMsg.Node]
      "v1, v2 := recv.members[p0.Node]",
      -- Go: if !ok { return upsertIntent(s.recentIntents, leaveMsg.Node, messageLeaveType, leaveMsg.LTime, time.Now) }
      "if !v2 { return upsertIntent(recv.recentIntents, p0.Node, messageLeaveType, p0.LTime, time.Now) }",
      -- Go: if leaveMsg.LTime <= member.statusLTime { return false }
      "if p0.LTime <= v1.statusLTime { return false }",
      -- Go: if leaveMsg.Node == s.config.NodeName && state == SerfAlive { go s.broadcastJoin(s.clock.Time()); return false }
      "if p0.Node == recv.config.NodeName && v0 == SerfAlive { go recv.broadcastJoin(recv.clock.Time()); return false }",
      -- Go: member.statusLTime = leaveMsg.LTime
      "v1.statusLTime = p0.LTime",
      -- Go: switch member.Status
      "switch v1.Status"] := rfl

theorem gen_leave_case_alive_shape :
    leaveCaseAlive = [
      -- Go: member.Status = StatusLeaving; if leaveMsg.Prune { s.handlePrune(member) }; return true
      "v1.Status = StatusLeaving",
      "if p0.Prune { recv.handlePrune(v1) }",
      "return true"] := rfl

theorem gen_leave_case_failed_shape :
    leaveCaseFailed = [
      -- Go: member.Status = StatusLeft
      "v1.Status = StatusLeft",
      -- Go: s.failedMembers = removeOldMember(s.failedMembers, member.Name)
      "recv.failedMembers = removeOldMember(recv.failedMembers, v1.Name)",
      -- Go: s.leftMembers = append(s.leftMembers, member)
      "recv.leftMembers = append(recv.leftMembers, v1)",
      -- Go: if s.config.EventCh != nil { s.config.EventCh <- MemberEvent{Type: EventMemberLeave, Members: []Member{member.Member}} }
      "if recv.config.EventCh != nil { recv.config.EventCh <- MemberEvent{Type: EventMemberLeave, Members: []Member{v1.Member}} }",
      -- Go: if leaveMsg.Prune { s.handlePrune(member) }
      "if p0.Prune { recv.handlePrune(v1) }",
      "return true"] := rfl

theorem gen_leave_case_leaving_left_shape :
    -- Go: case StatusLeaving, StatusLeft: if leaveMsg.Prune { s.handlePrune(member) }; return true
    leaveCaseLeavingLeft = ["if p0.Prune { recv.handlePrune(v1) }", "return true"] ∧
    leaveCaseDefault = ["return false"] := ⟨rfl, rfl⟩

theorem gen_handlePrune_shape :
    handlePruneStmts = [
      -- Go: func (s *Serf) handlePrune(member *memberState)                                    [member=p0]
      -- Go: if member.Status == StatusLeaving { time.Sleep(s.config.BroadcastTimeout + s.config.LeavePropagateDelay) }
      "if p0.Status == StatusLeaving { time.Sleep(recv.config.BroadcastTimeout + recv.config.LeavePropagateDelay) }",
      -- Go: if member.Status == StatusLeaving || member.Status == StatusLeft { s.leftMembers = removeOldMember(s.leftMembers, member.Name) }
      "if p0.Status == StatusLeaving || p0.Status == StatusLeft { recv.leftMembers = removeOldMember(recv.leftMembers, p0.Name) }",
      -- Go: s.eraseNode(member)
      "recv.eraseNode(p0)"] := rfl

/-- the clock witnesses the message time first, whatever happens afterwards (unknown member) -/
theorem gen_leave_witness_first_matches_model (n : Node) (x : Name) (lt : Nat) (p : Bool) (w : Nat)
    (h : alookup n.members x = none) :
    leaveWitnessFirst = true ∧
    (handleLeaveIntent n x lt p w).1.clock = witness n.clock lt ∧
    (handleLeaveIntent n x lt p w).2.rebroadcast = (upsertIntent n.intents x true lt w).2 := by
  rw [hli_unknown p w h]
  exact ⟨rfl, rfl, rfl⟩

/-- `leaveMsg.LTime <= member.statusLTime` ⇒ nothing but the clock changes and no rebroadcast:
non-strict `<=` in Go, `lt ≤ m.ltime` in the model -/
theorem gen_leave_stale_guard_matches_model (n : Node) (x : Name) (m : Member) (lt : Nat) (p : Bool) (w : Nat)
    (h : alookup n.members x = some m) (hle : lt ≤ m.ltime) :
    leaveStaleGuard = "p0.LTime <= v1.statusLTime" ∧
    handleLeaveIntent n x lt p w = ({ n with clock := witness n.clock lt }, {}) :=
  ⟨rfl, hli_stale p w h hle⟩

/-- an equal time IS stale (the guard is `<=`, not `<`): a second copy is not rebroadcast -/
theorem gen_leave_stale_at_equality_example :
    leaveStaleGuard = "p0.LTime <= v1.statusLTime" ∧
    (handleLeaveIntent { name := "a", members := [("a", ⟨.alive, 0, 0⟩), ("b", ⟨.leaving, 4, 0⟩)] } "b" 4 false 0).2.rebroadcast = false ∧
    (handleLeaveIntent { name := "a", members := [("a", ⟨.alive, 0, 0⟩), ("b", ⟨.leaving, 4, 0⟩)] } "b" 5 false 0).2.rebroadcast = true :=
  ⟨rfl, by decide +kernel⟩

/-- the refutation: own name and alive ⇒ the member record is untouched (the status time is set
only AFTER this guard), the join is spawned with the clock value of that moment, no rebroadcast -/
theorem gen_leave_refute_matches_model (n : Node) (m : Member) (lt : Nat) (p : Bool) (w : Nat)
    (h : alookup n.members n.name = some m) (hlt : m.ltime < lt) (hl : n.life = .alive) :
    leaveGuardsBeforeSetTime = true ∧ leaveRefuteCall = "go recv.broadcastJoin(recv.clock.Time())" ∧
    handleLeaveIntent n n.name lt p w =
      ({ n with clock := witness n.clock lt, pending := n.pending ++ [witness n.clock lt] }, {}) :=
  ⟨rfl, rfl, hli_refute p w h hlt hl⟩

/-- The prune order is decisive.  The model's failed case with `handlePrune` hoisted BEFORE the
failed-list removal (and returning right after it): the member is erased while its name stays on
the failed list. -/
def pruneBeforeRemoval (n : Node) (x : Name) (lt : Nat) : Node :=
  match alookup n.members x with
  | none => n
  | some m => (handlePrune { n with members := ainsert n.members x { m with ltime := lt, status := .left } } x).1

/-- a node that knows `b` as failed -/
def demoFailed : Node :=
  { name := "a", members := [("a", ⟨.alive, 0, 0⟩), ("b", ⟨.failed, 1, 5⟩)], failed := ["b"] }

theorem gen_prune_order_decisive :
    -- statement order in the Go case: list removal, append, (event,) THEN prune
    leavePruneAfterListUpdate = true ∧
    -- the model (that order): nothing is left behind
    (handleLeaveIntent demoFailed "b" 2 true 0).1.failed = [] ∧
    (handleLeaveIntent demoFailed "b" 2 true 0).1.left = [] ∧
    known (handleLeaveIntent demoFailed "b" 2 true 0).1 "b" = false ∧
    (handleLeaveIntent demoFailed "b" 2 true 0).2.events = [(.leave, "b"), (.reap, "b")] ∧
    -- the other order: a stale failed-list entry for an erased member
    (pruneBeforeRemoval demoFailed "b" 2).failed = ["b"] ∧
    known (pruneBeforeRemoval demoFailed "b" 2) "b" = false := ⟨rfl, by decide +kernel⟩

/-- inside `handlePrune` the left-list removal precedes `eraseNode`, and it is conditional on the
status Leaving/Left exactly as in the model -/
theorem gen_handlePrune_matches_model (n : Node) (x : Name) :
    handlePruneStmts.idxOf "recv.eraseNode(p0)" = 2 ∧
    (statusOf n x = some .leaving ∨ statusOf n x = some .left →
      (handlePrune n x).1 = eraseNode { n with left := removeOld n.left x } x) ∧
    (statusOf n x = some .failed ∨ statusOf n x = some .alive ∨ statusOf n x = none →
      (handlePrune n x).1 = eraseNode n x) := by
  refine ⟨by decide +kernel, ?_, ?_⟩
  · rintro (h | h) <;> simp [handlePrune, h]
  · rintro (h | h | h) <;> simp [handlePrune, h]

/-- the failed case against the model: status Left, time set, failed-list removal, left append -/
theorem gen_leave_case_failed_matches_model (n : Node) (x : Name) (m : Member) (lt : Nat) (w : Nat)
    (h : alookup n.members x = some m) (hlt : m.ltime < lt) (hs : m.status = .failed)
    (hx : ¬ (x = n.name ∧ n.life = .alive)) :
    leaveSetsTimeBeforeSwitch = true ∧
    (handleLeaveIntent n x lt false w).1.failed = removeOld n.failed x ∧
    (handleLeaveIntent n x lt false w).1.left = n.left ++ [x] ∧
    (handleLeaveIntent n x lt false w).1.members = ainsert n.members x { m with ltime := lt, status := .left } ∧
    (handleLeaveIntent n x lt false w).2.events = [(.leave, x)] ∧
    (handleLeaveIntent n x lt false w).2.rebroadcast = true := by
  rw [hli_newer false w h hlt hx, leaveUpd_of_lt hlt, hs]
  exact ⟨rfl, rfl, rfl, rfl, rfl, rfl⟩

theorem gen_join_cleanup_shape :
    -- Go: func (s *Serf) handleNodeJoin(n *memberlist.Node)      [n=p0 oldStatus=v0 member=v1 ok=v2 deadTime=v3]
    -- Go: if oldStatus == StatusFailed || oldStatus == StatusLeft { … }   (the two tests in textual order)
    joinCleanupGuard = "v0 == StatusFailed || v0 == StatusLeft" ∧
    joinCleanupStmts = [
      -- Go: s.failedMembers = removeOldMember(s.failedMembers, member.Name)
      "recv.failedMembers = removeOldMember(recv.failedMembers, v1.Name)",
      -- Go: s.leftMembers = removeOldMember(s.leftMembers, member.Name)
      "recv.leftMembers = removeOldMember(recv.leftMembers, v1.Name)"] := ⟨rfl, rfl⟩

theorem gen_join_intent_lookups_shape :
    joinIntentLookups = [
      -- (the `if !ok { first seen } else { known }` of the source is oriented `if ok { known } else { first seen }`,
      --  so the variables of the known branch are numbered first: deadTime=v3, then join=v4 ok=v5 leave=v6 ok=v7)
      -- Go: if join, ok := recentIntent(s.recentIntents, n.Name, messageJoinType); ok { member.statusLTime = join }
      "if v4, v5 := recentIntent(recv.recentIntents, p0.Name, messageJoinType); v5 { v1.statusLTime = v4 }",
      -- Go: if leave, ok := recentIntent(s.recentIntents, n.Name, messageLeaveType); ok { member.Status = StatusLeaving; member.statusLTime = leave }
      "if v6, v7 := recentIntent(recv.recentIntents, p0.Name, messageLeaveType); v7 { v1.Status = StatusLeaving; v1.statusLTime = v6 }"] := rfl

theorem gen_join_known_shape :
    joinKnownStmts = [
      -- Go: oldStatus = member.Status; deadTime := time.Since(member.leaveTime)
      "v0 = v1.Status",
      "v3 := time.Since(v1.leaveTime)",
      -- Go: member.Status = StatusAlive; member.leaveTime = time.Time{}
      "v1.Status = StatusAlive",
      "v1.leaveTime = time.Time{}",
      -- Go: member.Addr = n.Addr; member.Port = n.Port; member.Tags = s.decodeTags(n.Meta)
      "v1.Addr = p0.Addr",
      "v1.Port = p0.Port",
      "v1.Tags = recv.decodeTags(p0.Meta)"] := rfl

/-- BOTH lists are cleaned when the old status was Failed OR Left -/
theorem gen_join_cleanup_matches_model (n : Node) (x : Name) (m : Member)
    (h : alookup n.members x = some m) (hs : m.status = .failed ∨ m.status = .left) :
    joinCleanupGuard = "v0 == StatusFailed || v0 == StatusLeft" ∧ joinCleanupStmts.length = 2 ∧
    (handleNodeJoin n x).1.failed = removeOld n.failed x ∧
    (handleNodeJoin n x).1.left = removeOld n.left x ∧
    (handleNodeJoin n x).1.members = ainsert n.members x { m with status := .alive, leaveTime := 0 } := by
  refine ⟨rfl, rfl, ?_, ?_, ?_⟩ <;> simp [handleNodeJoin, h, hs]

/-- … and neither list is touched otherwise -/
theorem gen_join_no_cleanup_matches_model (n : Node) (x : Name) (m : Member)
    (h : alookup n.members x = some m) (hs : m.status = .alive ∨ m.status = .leaving) :
    joinCleanupGuard = "v0 == StatusFailed || v0 == StatusLeft" ∧
    (handleNodeJoin n x).1.failed = n.failed ∧ (handleNodeJoin n x).1.left = n.left := by
  refine ⟨rfl, ?_, ?_⟩ <;> rcases hs with hs | hs <;> simp [handleNodeJoin, h, hs]

/-- The clean-up shape is decisive.  The variant "a member that was Failed is removed from the
failed list, one that was Left from the left list" (`switch oldStatus`) on the model. -/
def joinCleansOwnListOnly (n : Node) (x : Name) : Node :=
  match alookup n.members x with
  | none => n
  | some m =>
    let n1 := { n with members := ainsert n.members x { m with status := .alive, leaveTime := 0 } }
    if m.status = .failed then { n1 with failed := removeOld n1.failed x }
    else if m.status = .left then { n1 with left := removeOld n1.left x } else n1

/-- `b` Left but (after a leave intent that did not clean the failed list) still listed as failed -/
def demoLeftStale : Node :=
  { name := "a", members := [("a", ⟨.alive, 0, 0⟩), ("b", ⟨.left, 2, 5⟩)], failed := ["b"], left := ["b"] }

theorem gen_join_cleanup_decisive :
    joinCleanupGuard = "v0 == StatusFailed || v0 == StatusLeft" ∧ joinCleanupStmts.length = 2 ∧
    (handleNodeJoin demoLeftStale "b").1.failed = [] ∧ (handleNodeJoin demoLeftStale "b").1.left = [] ∧
    (joinCleansOwnListOnly demoLeftStale "b").failed = ["b"] ∧
    statusOf (joinCleansOwnListOnly demoLeftStale "b") "b" = some .alive ∧
    -- and with the Go order of the failed case the stale state does not arise in the first place
    (handleLeaveIntent demoFailed "b" 2 false 0).1.failed = [] ∧
    (handleLeaveIntent demoFailed "b" 2 false 0).1.left = ["b"] := ⟨rfl, rfl, by decide +kernel⟩

/-- the intent look-ups for a new member: join first, then leave (which also sets Leaving) -/
theorem gen_join_intent_lookups_match_model (n : Node) (x : Name) (i : Intent)
    (h : alookup n.members x = none) (hi : alookup n.intents x = some i) :
    joinIntentLookups.length = 2 ∧
    alookup (handleNodeJoin n x).1.members x =
      alookup (ainsert n.members x
        (if i.isLeave then { status := .leaving, ltime := i.ltime } else { status := .alive, ltime := i.ltime })) x := by
  refine ⟨rfl, ?_⟩
  simp [handleNodeJoin, h, hi]

theorem gen_nodeLeave_shape :
    -- Go: func (s *Serf) handleNodeLeave(n *memberlist.Node)   [n=p0 member=v0 ok=v1];  switch member.Status
    nodeLeaveSwitchTag = "v0.Status" ∧
    nodeLeaveCaseLeaving = [
      -- Go: member.Status = StatusLeft; member.leaveTime = time.Now(); s.leftMembers = append(s.leftMembers, member)
      "v0.Status = StatusLeft",
      "v0.leaveTime = time.Now()",
      "recv.leftMembers = append(recv.leftMembers, v0)"] ∧
    nodeLeaveCaseAlive = [
      -- Go: member.Status = StatusFailed; member.leaveTime = time.Now(); s.failedMembers = append(s.failedMembers, member)
      "v0.Status = StatusFailed",
      "v0.leaveTime = time.Now()",
      "recv.failedMembers = append(recv.failedMembers, v0)"] ∧
    nodeLeaveCaseDefault = ["return"] := ⟨rfl, rfl, rfl, rfl⟩

/-- Leaving → Left on the left list, Alive → Failed on the failed list, anything else: nothing -/
theorem gen_nodeLeave_matches_model (n : Node) (x : Name) (m : Member) (at_ : Nat)
    (h : alookup n.members x = some m) :
    nodeLeaveCaseDefault = ["return"] ∧
    (m.status = .leaving → (handleNodeLeave n x at_).1.left = n.left ++ [x] ∧ (handleNodeLeave n x at_).1.failed = n.failed) ∧
    (m.status = .alive → (handleNodeLeave n x at_).1.failed = n.failed ++ [x] ∧ (handleNodeLeave n x at_).1.left = n.left) ∧
    (m.status = .left ∨ m.status = .failed → (handleNodeLeave n x at_) = (n, {})) := by
  refine ⟨rfl, ?_, ?_, ?_⟩
  · intro hs; simp [handleNodeLeave, h, hs]
  · intro hs; simp [handleNodeLeave, h, hs]
  · rintro (hs | hs) <;> simp [handleNodeLeave, h, hs]

/-- `removeOldMember` is extracted as a SEMANTIC summary, not as text: which slice is searched,
with which predicate on an element `elem`, that the FIRST match (ascending index) is taken, what
is done with its index `idx`, and what happens without a match.  The extractor derives the same
summary from the manual loop
`for i, m := range old { if m.Name == name { n := len(old); old[i], old[n-1] = old[n-1], nil; return old[:n-1] } }; return old`
and from `i := slices.IndexFunc(old, func(m *memberState) bool { return m.Name == name }); if i < 0 { return old }; …`
(`old` = p0, `name` = p1; `n := len(old)` / `last := len(old) - 1` are inlined). -/
theorem gen_removeOldMember_shape :
    removeOldSearchOver = "p0" ∧
    -- Go: m.Name == name
    removeOldSearchPred = "elem.Name == p1" ∧
    removeOldSearchFirst = true ∧
    removeOldOnMatch = [
      -- Go: n := len(old); old[i], old[n-1] = old[n-1], nil
      "p0[idx], p0[len(p0)-1] = p0[len(p0)-1], nil",
      -- Go: return old[:n-1]
      "return p0[:len(p0)-1]"] ∧
    -- Go: return old
    removeOldNoMatch = "return p0" := ⟨rfl, rfl, rfl, rfl, rfl⟩

/-- The MEANING of that summary on the model's lists of names (an element is identified by its
`Name`, so `elem.Name == p1` is `· = x`): search the first index whose element satisfies the
predicate (`removeOldSearchFirst`); none: `return p0`, the list unchanged (`removeOldNoMatch`);
`some idx`: `p0[idx], p0[len(p0)-1] = p0[len(p0)-1], nil; return p0[:len(p0)-1]`, i.e. slot
`idx` receives the last element and the last slot is cut (`removeOldOnMatch`) = `swapRemove`. -/
def removeOldSem (l : List Name) (x : Name) : List Name :=
  match l.findIdx? (· = x) with
  | none => l
  | some i => swapRemove l i

theorem gen_removeOld_semantics : ∀ (l : List Name) (x : Name), removeOldSem l x = removeOld l x := by
  intro l x
  induction l with
  | nil => simp [removeOldSem, removeOld]
  | cons y ys ih =>
    unfold removeOldSem at ih ⊢
    by_cases h : y = x
    · simp [List.findIdx?_cons, h, removeOld, swapRemove]
    · cases hf : ys.findIdx? (· = x) with
      | none => simp [List.findIdx?_cons, h, hf, removeOld] at ih ⊢; exact ih
      | some i => simp [List.findIdx?_cons, h, hf, removeOld, swapRemove] at ih ⊢; exact ih

/-- the summary that `removeOldSem` interprets is the generated one, and so the generated code
removes like the model -/
theorem gen_removeOld_matches_model (l : List Name) (x : Name) :
    removeOldSearchPred = "elem.Name == p1" ∧ removeOldSearchFirst = true ∧ removeOldOnMatch.length = 2 ∧
    removeOldNoMatch = "return p0" ∧ removeOldSem l x = removeOld l x :=
  ⟨rfl, rfl, rfl, rfl, gen_removeOld_semantics l x⟩

/-- The FIRST match is decisive: removing the LAST match instead differs on a list with a duplicate. -/
def removeOldLastSem (l : List Name) (x : Name) : List Name :=
  match (l.reverse.findIdx? (· = x)) with
  | none => l
  | some j => swapRemove l (l.length - 1 - j)

theorem gen_removeOld_first_decisive :
    removeOldSearchFirst = true ∧
    removeOldSem ["a", "b", "a", "c"] "a" = ["c", "b", "a"] ∧
    removeOldLastSem ["a", "b", "a", "c"] "a" = ["a", "b", "c"] := ⟨rfl, by decide +kernel⟩

/-- first match overwritten by the last element, slice cut by one; no match: unchanged -/
theorem gen_removeOldMember_example :
    removeOldOnMatch.length = 2 ∧
    removeOld ["a", "b", "c", "d"] "b" = ["a", "d", "c"] ∧ removeOld ["a", "b"] "b" = ["a"] ∧
    removeOld ["a", "b", "a"] "a" = ["a", "b"] ∧ removeOld ["a", "b"] "z" = ["a", "b"] := ⟨rfl, by decide +kernel⟩

theorem gen_upsertIntent_shape :
    -- Go: func upsertIntent(intents map[string]nodeIntent, node string, itype messageType, ltime LamportTime, stamper func() time.Time) bool
    --     [intents=p0 node=p1 itype=p2 ltime=p3 stamper=p4 intent=v0 ok=v1]
    -- Go: if intent, ok := intents[node]; !ok || ltime > intent.LTime          (`a > b` is written `b < a`)
    upsertIntentGuard = "v0, v1 := p0[p1]; !v1 || v0.LTime < p3" ∧
    upsertIntentThen = [
      -- Go: intents[node] = nodeIntent{Type: itype, WallTime: stamper(), LTime: ltime}
      "p0[p1] = nodeIntent{Type: p2, WallTime: p4(), LTime: p3}",
      "return true"] ∧
    upsertIntentRest = ["return false"] := ⟨rfl, rfl, rfl⟩

/-- `!ok || ltime > intent.LTime` (printed `!v1 || v0.LTime < p3`), whatever the TYPE of the buffered intent -/
theorem gen_upsertIntent_guard_matches_model (ints : List (Name × Intent)) (x : Name) (b : Bool) (lt w : Nat) :
    upsertIntentGuard = "v0, v1 := p0[p1]; !v1 || v0.LTime < p3" ∧
    (upsertIntent ints x b lt w).2 =
      (match alookup ints x with
       | none => true
       | some i => decide (lt > i.ltime)) ∧
    ((upsertIntent ints x b lt w).2 = false → (upsertIntent ints x b lt w).1 = ints) := by
  refine ⟨rfl, ?_⟩
  unfold upsertIntent
  cases alookup ints x with
  | none => simp
  | some i => by_cases hi : i.ltime < lt <;> simp [hi]

/-- The guard is decisive.  The variant that refuses only "same type and not newer" on the model. -/
def upsertPerType (ints : List (Name × Intent)) (x : Name) (isLeave : Bool) (lt wall : Nat) :
    List (Name × Intent) × Bool :=
  match alookup ints x with
  | some i => if i.isLeave = isLeave ∧ lt ≤ i.ltime then (ints, false) else (ainsert ints x ⟨isLeave, lt, wall⟩, true)
  | none => (ainsert ints x ⟨isLeave, lt, wall⟩, true)

theorem gen_upsertIntent_guard_decisive :
    upsertIntentGuard = "v0, v1 := p0[p1]; !v1 || v0.LTime < p3" ∧
    -- a buffered join at time 5, then an OLDER leave at time 3
    upsertIntent [("b", ⟨false, 5, 0⟩)] "b" true 3 9 = ([("b", ⟨false, 5, 0⟩)], false) ∧
    upsertPerType [("b", ⟨false, 5, 0⟩)] "b" true 3 9 = ([("b", ⟨true, 3, 9⟩)], true) ∧
    -- an equal time is not newer
    (upsertIntent [("b", ⟨true, 5, 0⟩)] "b" true 5 9).2 = false := ⟨rfl, by decide +kernel⟩

theorem gen_joinIntent_shape :
    -- Go: func (s *Serf) handleNodeJoinIntent(joinMsg *messageJoin) bool        [joinMsg=p0 member=v0 ok=v1]
    -- Go: joinMsg.LTime <= member.statusLTime
    joinIntentStaleGuard = "p0.LTime <= v0.statusLTime" ∧
    joinIntentStmts = [
      -- Go: s.clock.Witness(joinMsg.LTime)
      "recv.clock.Witness(p0.LTime)",
      "recv.memberLock.Lock()",
      "defer recv.memberLock.Unlock()",
      -- Go: member, ok := s.members[joinMsg.Node]
      "v0, v1 := recv.members[p0.Node]",
      -- Go: if !ok { return upsertIntent(s.recentIntents, joinMsg.Node, messageJoinType, joinMsg.LTime, time.Now) }
      "if !v1 { return upsertIntent(recv.recentIntents, p0.Node, messageJoinType, p0.LTime, time.Now) }",
      -- Go: if joinMsg.LTime <= member.statusLTime { return false }
      "if p0.LTime <= v0.statusLTime { return false }",
      -- Go: member.statusLTime = joinMsg.LTime
      "v0.statusLTime = p0.LTime",
      -- Go: if member.Status == StatusLeaving { member.Status = StatusAlive }
      "if v0.Status == StatusLeaving { v0.Status = StatusAlive }",
      "return true"] := ⟨rfl, rfl⟩

theorem gen_joinIntent_matches_model (n : Node) (x : Name) (m : Member) (lt w : Nat)
    (h : alookup n.members x = some m) :
    joinIntentStaleGuard = "p0.LTime <= v0.statusLTime" ∧
    (lt ≤ m.ltime → handleJoinIntent n x lt w = ({ n with clock := witness n.clock lt }, {})) ∧
    (m.ltime < lt → (handleJoinIntent n x lt w).2.rebroadcast = true ∧
      alookup (handleJoinIntent n x lt w).1.members x =
        alookup (ainsert n.members x { m with ltime := lt, status := if m.status = .leaving then .alive else m.status }) x) := by
  refine ⟨rfl, hji_stale w h, fun hlt => ?_⟩
  rw [hji_newer w h hlt, joinUpd_of_lt hlt]
  exact ⟨rfl, rfl⟩

theorem gen_localState_shape :
    localStateStatusLoop = [
      -- Go (LocalState): for name, member := range d.serf.members { pp.StatusLTimes[name] = member.statusLTime }   [name=w0 member=w1 pp=w2: numbered per fragment]
      "for w0, w1 := range recv.serf.members",
      "w2.StatusLTimes[w0] = w1.statusLTime"] ∧
    localStateStatusLoopUnconditional = true ∧
    localStateLeftLoop = [
      -- Go: for _, member := range d.serf.leftMembers { pp.LeftMembers = append(pp.LeftMembers, member.Name) }   [member=w0 pp=w1]
      "for _, w0 := range recv.serf.leftMembers",
      "w1.LeftMembers = append(w1.LeftMembers, w0.Name)"] ∧
    localStateLeftLoopUnconditional = true := ⟨rfl, rfl, rfl, rfl⟩

/-- every member (Left ones included) is reported with its status time, every left-list entry by name -/
theorem gen_localState_lists_left_members :
    localStateStatusLoopUnconditional = true ∧ localStateLeftLoopUnconditional = true ∧
    (∀ n : Node, (SerfModel.Cluster.localState n).1 = n.clock) ∧
    (∀ n : Node, (SerfModel.Cluster.localState n).2.1 = n.members.map (fun p => (p.1, p.2.ltime))) ∧
    (∀ n : Node, (SerfModel.Cluster.localState n).2.2 = n.left) :=
  ⟨rfl, rfl, fun _ => rfl, fun _ => rfl, fun _ => rfl⟩

/-- The unconditional loop is decisive.  `LocalState` that skips Left members: -/
def localStateSkippingLeft (n : Node) : Nat × List (Name × Nat) × List Name :=
  (n.clock, (n.members.filter (fun p => p.2.status ≠ .left)).map (fun p => (p.1, p.2.ltime)), n.left)

/-- the receiver knows `b` as failed at time 3; the sender has it Left at time 7.  With the real
`LocalState` the claim is made at 7 + 1 and accepted; with the skipping one it is made at 0 + 1
and refused as stale: the receiver keeps `b` failed for ever. -/
theorem gen_localState_unconditional_decisive :
    localStateStatusLoopUnconditional = true ∧
    statusOf (merge { name := "r", members := [("r", ⟨.alive, 0, 0⟩), ("b", ⟨.failed, 3, 5⟩)], failed := ["b"] }
      (SerfModel.Cluster.localState { name := "s", members := [("s", ⟨.alive, 0, 0⟩), ("b", ⟨.left, 7, 5⟩)], left := ["b"] }).1
      (SerfModel.Cluster.localState { name := "s", members := [("s", ⟨.alive, 0, 0⟩), ("b", ⟨.left, 7, 5⟩)], left := ["b"] }).2.1
      (SerfModel.Cluster.localState { name := "s", members := [("s", ⟨.alive, 0, 0⟩), ("b", ⟨.left, 7, 5⟩)], left := ["b"] }).2.2 0).1 "b" = some .left ∧
    statusOf (merge { name := "r", members := [("r", ⟨.alive, 0, 0⟩), ("b", ⟨.failed, 3, 5⟩)], failed := ["b"] }
      (localStateSkippingLeft { name := "s", members := [("s", ⟨.alive, 0, 0⟩), ("b", ⟨.left, 7, 5⟩)], left := ["b"] }).1
      (localStateSkippingLeft { name := "s", members := [("s", ⟨.alive, 0, 0⟩), ("b", ⟨.left, 7, 5⟩)], left := ["b"] }).2.1
      (localStateSkippingLeft { name := "s", members := [("s", ⟨.alive, 0, 0⟩), ("b", ⟨.left, 7, 5⟩)], left := ["b"] }).2.2 0).1 "b" = some .failed :=
  ⟨rfl, by decide +kernel⟩

theorem gen_merge_loops_shape :
    -- Go (MergeRemoteState): [pp=v0 err=v1 leftMap=v2 leave=v3 name=v4 join=v5 name=v6 statusLTime=v7 ok=v8]
    -- Go: pp.StatusLTimes[name] + 1     (a constant in place of the 1 would be resolved to its value)
    mergeLeaveTimeExpr = "v0.StatusLTimes[v4] + 1" ∧ mergeLeaveOffset = 1 ∧
    mergeLeftLoopStmts = [
      -- Go: for _, name := range pp.LeftMembers
      "for _, v4 := range v0.LeftMembers",
      -- Go: leftMap[name] = struct{}{}
      "v2[v4] = struct{}{}",
      -- Go: leave.LTime = pp.StatusLTimes[name] + 1
      "v3.LTime = v0.StatusLTimes[v4] + 1",
      -- Go: leave.Node = name
      "v3.Node = v4",
      -- Go: d.serf.handleNodeLeaveIntent(&leave)
      "recv.serf.handleNodeLeaveIntent(&v3)"] ∧
    mergeJoinLoopStmts = [
      -- Go: for name, statusLTime := range pp.StatusLTimes
      "for v6, v7 := range v0.StatusLTimes",
      -- Go: if _, ok := leftMap[name]; ok { continue }
      "if _, v8 := v2[v6]; v8 { continue }",
      -- Go: join.LTime = statusLTime; join.Node = name
      "v5.LTime = v7",
      "v5.Node = v6",
      -- Go: d.serf.handleNodeJoinIntent(&join)
      "recv.serf.handleNodeJoinIntent(&v5)"] := ⟨rfl, rfl, rfl, rfl⟩

theorem gen_merge_order_shape :
    mergeLeftsBeforeJoins = true ∧ mergeIgnoresResults = true ∧ mergeWitnessBeforeLoops = true ∧
    mergeWitnessStmts = [
      -- Go: if pp.LTime > 0 { d.serf.clock.Witness(pp.LTime - 1) }              (`a > 0` is written `0 < a`)
      "if 0 < v0.LTime { recv.serf.clock.Witness(v0.LTime - 1) }",
      -- Go: if pp.EventLTime > 0 { d.serf.eventClock.Witness(pp.EventLTime - 1) }
      "if 0 < v0.EventLTime { recv.serf.eventClock.Witness(v0.EventLTime - 1) }",
      -- Go: if pp.QueryLTime > 0 { d.serf.queryClock.Witness(pp.QueryLTime - 1) }
      "if 0 < v0.QueryLTime { recv.serf.queryClock.Witness(v0.QueryLTime - 1) }"] := ⟨rfl, rfl, rfl, rfl⟩

/-- the generated offset in the place of the literal `+ 1` of the model's claim time (`mergeLefts`; the model
does not import the generated file) gives the same time; the statement about `mergeLefts` itself is the next one -/
theorem gen_merge_claim_offset (st : List (Name × Nat)) (x : Name) :
    (((alookup st x).getD 0) + mergeLeaveOffset) % two64 = (((alookup st x).getD 0) + 1) % two64 := rfl

/-- one iteration of the left loop of the model, written with the GENERATED offset: a leave
intent at `StatusLTimes[name] + offset` (a missing key reads 0; uint64 wrap), never a prune,
result ignored, events kept -/
theorem gen_mergeLefts_uses_offset (n : Node) (st : List (Name × Nat)) (wall : Nat) (x : Name) (xs : List Name) :
    mergeLefts n st wall (x :: xs) =
      ((mergeLefts (handleLeaveIntent n x ((((alookup st x).getD 0) + mergeLeaveOffset) % two64) false wall).1 st wall xs).1,
       (handleLeaveIntent n x ((((alookup st x).getD 0) + mergeLeaveOffset) % two64) false wall).2.events ++
       (mergeLefts (handleLeaveIntent n x ((((alookup st x).getD 0) + mergeLeaveOffset) % two64) false wall).1 st wall xs).2) := rfl

/-- the status loop of the model: names on the left list are skipped, the others become join intents -/
theorem gen_mergeJoins_skips_left (n : Node) (left : List Name) (wall : Nat) (x : Name) (t : Nat)
    (rest : List (Name × Nat)) :
    mergeJoinLoopStmts[1]? = some "if _, v8 := v2[v6]; v8 { continue }" ∧
    (x ∈ left → mergeJoins n left wall ((x, t) :: rest) = mergeJoins n left wall rest) ∧
    (x ∉ left → mergeJoins n left wall ((x, t) :: rest) = mergeJoins (handleJoinIntent n x t wall).1 left wall rest) := by
  refine ⟨rfl, ?_, ?_⟩ <;> intro h <;> simp [mergeJoins, h]

/-- witness (time − 1, only if positive), then ALL lefts, then the joins; no rebroadcast decision -/
theorem gen_merge_order_matches_model (n : Node) (lt : Nat) (st : List (Name × Nat)) (lf : List Name) (w : Nat) :
    mergeWitnessBeforeLoops = true ∧ mergeLeftsBeforeJoins = true ∧ mergeIgnoresResults = true ∧
    (merge n lt st lf w).1 =
      mergeJoins (mergeLefts (if 0 < lt then { n with clock := witness n.clock (lt - 1) } else n) st w lf).1 lf w st ∧
    (merge n lt st lf w).2.rebroadcast = false ∧ (merge n lt st lf w).2.queued = [] :=
  ⟨rfl, rfl, rfl, rfl, rfl, rfl⟩

/-- The offset is decisive: the claim must be strictly newer than the status time the receiver
already holds (the stale guard is `<=`), so with `+ 0` a claim for a member both sides hold at the
same status time is refused. -/
theorem gen_merge_offset_decisive :
    mergeLeaveOffset = 1 ∧
    -- receiver has b failed at 1, sender has b left at 1: the claim 1 + offset is accepted
    statusOf (handleLeaveIntent demoFailed "b" ((1 + mergeLeaveOffset) % two64) false 0).1 "b" = some .left ∧
    -- with offset 0 it would be stale
    statusOf (handleLeaveIntent demoFailed "b" ((1 + 0) % two64) false 0).1 "b" = some .failed := ⟨rfl, by decide +kernel⟩

theorem gen_notify_shape :
    -- Go (NotifyMsg): rebroadcast := false … if rebroadcast { …QueueBroadcast… }   [rebroadcast=v0 rebroadcastQueue=v1 t=v2 leave=v3 err=v4 join=v5]
    notifyRebroadcastGuard = "v0" ∧ notifyRebroadcastInit = "v0 := false" ∧
    -- Go: rebroadcast = d.serf.handleNodeLeaveIntent(&leave)
    notifyLeaveHandler = "v0 = recv.serf.handleNodeLeaveIntent(&v3)" ∧
    -- Go: rebroadcast = d.serf.handleNodeJoinIntent(&join)
    notifyJoinHandler = "v0 = recv.serf.handleNodeJoinIntent(&v5)" ∧
    notifyHandlersAssignGuard = true := ⟨rfl, rfl, rfl, rfl, rfl⟩

/-- NotifyMsg re-queues the message iff the handler returned true: the model's `rebroadcasts`
collects exactly the messages whose step reported `rebroadcast` -/
theorem gen_notify_matches_model (n : Node) (x : Name) (lt : Nat) (p : Bool) (w : Nat) (ops : List Op) :
    notifyHandlersAssignGuard = true ∧
    rebroadcasts n (.leaveMsg x lt p w :: ops) =
      (if (handleLeaveIntent n x lt p w).2.rebroadcast then
        Msg.leave x lt p :: rebroadcasts (handleLeaveIntent n x lt p w).1 ops
       else rebroadcasts (handleLeaveIntent n x lt p w).1 ops) ∧
    rebroadcasts n (.joinMsg x lt w :: ops) =
      (if (handleJoinIntent n x lt w).2.rebroadcast then
        Msg.join x lt :: rebroadcasts (handleJoinIntent n x lt w).1 ops
       else rebroadcasts (handleJoinIntent n x lt w).1 ops) :=
  ⟨rfl, rfl, rfl⟩

end SerfProofs.NodeShapes
