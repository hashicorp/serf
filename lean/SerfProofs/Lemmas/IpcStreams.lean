/-
Helper lemmas for C25: what a step of the event stream does to its log and stop flag (`esStep_log`), its accounting
invariant (`ESInv`), and the invariant of the query stream's select loop (`QInv`).
-/
import SerfModel.Model.IpcStreams
import SerfProofs.Lemmas.Ite
namespace SerfProofs.IpcStreams
open SerfModel SerfModel.IpcStreams

def accepted (log : List (Ev × Bool)) : List Ev := (log.filter (·.2)).map (·.1)

theorem accepted_append (a b : List (Ev × Bool)) : accepted (a ++ b) = accepted a ++ accepted b := by
  simp [accepted]

theorem esStep_log (fs : List Filter) (cap : Nat) (s : ES) (a : Act) :
    (esStep fs cap s a).log = s.log ++
      (match a with
        | .arrive e => if s.stopped then [] else if wanted fs e then [(e, decide (s.buf.length < cap))] else []
        | _ => []) ∧
    (esStep fs cap s a).stopped = (s.stopped || a == .stop) := by
  have same : ∀ s' : ES, s'.log = s.log → s'.stopped = s.stopped →
      s'.log = s.log ++ [] ∧ s'.stopped = (s.stopped || false) :=
    fun _ h1 h2 => ⟨h1.trans (List.append_nil _).symm, h2.trans (Bool.or_false _).symm⟩
  cases a with
  | arrive e =>
    simp only [esStep]
    by_cases hs : s.stopped = true
    · simp only [if_pos hs]; exact same s rfl rfl
    · simp only [if_neg hs]
      by_cases hw : wanted fs e = true
      · simp only [if_pos hw]
        by_cases hc : s.buf.length < cap
        · rw [if_pos hc, decide_eq_true hc]; exact ⟨rfl, (Bool.or_false _).symm⟩
        · rw [if_neg hc, decide_eq_false hc]; exact ⟨rfl, (Bool.or_false _).symm⟩
      · simp only [if_neg hw]; exact same s rfl rfl
  | consume | consumeFail =>
    simp only [esStep]
    by_cases hd : s.dead = true
    · rw [if_pos hd]; exact same s rfl rfl
    · rw [if_neg hd]; cases s.buf <;> exact same _ rfl rfl
  | stop => exact ⟨(List.append_nil _).symm, (Bool.or_true _).symm⟩

theorem es_log (fs : List Filter) (cap : Nat) (sched : List Act) (s : ES) :
    (sched.foldl (esStep fs cap) s).log.map (·.1) =
      s.log.map (·.1) ++ (if s.stopped then [] else (liveArrivals sched).filter (wanted fs)) := by
  induction sched generalizing s with
  | nil => simp [liveArrivals]
  | cons a r ih =>
    rw [List.foldl_cons, ih, (esStep_log fs cap s a).1, (esStep_log fs cap s a).2]
    cases hs : s.stopped
    · cases a with
      | arrive e => simp [liveArrivals, List.filter_cons]; split <;> simp
      | consume | consumeFail | stop => simp [liveArrivals]
    · cases a <;> simp

theorem es_after_stop (fs : List Filter) (cap : Nat) (sched : List Act) {s : ES} (hs : s.stopped = true) :
    (sched.foldl (esStep fs cap) s).log = s.log :=
  (List.foldlRecOn sched (esStep fs cap) (motive := fun s' => s'.log = s.log ∧ s'.stopped = true) ⟨rfl, hs⟩
    fun s' h a _ => by
      obtain ⟨h1, h2⟩ := esStep_log fs cap s' a
      rw [h1, h2, h.2]
      cases a <;> simp [h.1]).1

structure ESInv (cap : Nat) (s : ES) : Prop where
  acc : s.sent ++ s.lost ++ s.buf = accepted s.log
  alive : s.dead = false → s.lost = []
  room : s.buf.length ≤ cap

theorem esStep_inv (fs : List Filter) (cap : Nat) (s : ES) (a : Act) (h : ESInv cap s) : ESInv cap (esStep fs cap s a) := by
  cases a with
  | arrive e =>
    simp only [esStep]
    refine ite_prop _ (fun _ => h) fun _ => ite_prop _ (fun _ => ?_) fun _ => h
    refine ite_prop _ (fun hc => ⟨?_, h.alive, by rw [List.length_append]; exact hc⟩) fun _ => ⟨?_, h.alive, h.room⟩
    · show s.sent ++ s.lost ++ (s.buf ++ [e]) = accepted (s.log ++ [(e, true)])
      rw [accepted_append, ← h.acc, ← List.append_assoc]; rfl
    · show s.sent ++ s.lost ++ s.buf = accepted (s.log ++ [(e, false)])
      rw [accepted_append, ← h.acc]; exact (List.append_nil _).symm
  | consume =>
    simp only [esStep]
    refine ite_prop _ (fun _ => h) fun hd => ?_
    cases hb : s.buf with
    | nil => exact h
    | cons e r =>
      have hacc := h.acc
      have hroom := h.room
      rw [hb] at hacc hroom
      exact ⟨by rw [← hacc, h.alive (by simpa using hd)]; simp, h.alive, Nat.le_of_succ_le hroom⟩
  | consumeFail =>
    simp only [esStep]
    refine ite_prop _ (fun _ => h) fun hd => ?_
    cases hb : s.buf with
    | nil => exact h
    | cons e r =>
      have hacc := h.acc
      have hroom := h.room
      rw [hb] at hacc hroom
      exact ⟨by rw [← hacc, h.alive (by simpa using hd)]; simp, (fun hh => nomatch hh), Nat.le_of_succ_le hroom⟩
  | stop => exact ⟨h.acc, h.alive, h.room⟩

theorem es_drain (fs : List Filter) (cap : Nat) (n : Nat) (s : ES) (h : s.buf.length ≤ n) (hd : s.dead = false) :
    ((List.replicate n Act.consume).foldl (esStep fs cap) s).buf = [] ∧
    ((List.replicate n Act.consume).foldl (esStep fs cap) s).sent = s.sent ++ s.buf := by
  induction n generalizing s with
  | zero =>
    have : s.buf = [] := List.eq_nil_of_length_eq_zero (Nat.le_zero.mp h)
    simp [this]
  | succ n ih =>
    rw [List.replicate_succ, List.foldl_cons]
    cases hb : s.buf with
    | nil =>
      have hs : esStep fs cap s .consume = s := by simp [esStep, hb, hd]
      rw [hs]
      have := ih s (by simp [hb]) hd
      simpa [hb] using this
    | cons e r =>
      have hs : esStep fs cap s .consume = { s with buf := r, sent := s.sent ++ [e] } := by simp [esStep, hb, hd]
      rw [hs]
      have := ih { s with buf := r, sent := s.sent ++ [e] } (by simp [hb] at h; simpa using by omega) hd
      simpa using this

theorem acksOf_eq (l : List Rec) : acksOf l = l.filterMap fun | .ack a => some a | _ => none := by
  induction l with
  | nil => rfl
  | cons x l ih => cases x <;> simp [acksOf, ih]

theorem respsOf_eq (l : List Rec) : respsOf l = l.filterMap fun | .response f p => some (f, p) | _ => none := by
  induction l with
  | nil => rfl
  | cons x l ih => cases x <;> simp [respsOf, ih]

theorem acksOf_append (a b : List Rec) : acksOf (a ++ b) = acksOf a ++ acksOf b := by
  simp only [acksOf_eq, List.filterMap_append]

theorem respsOf_append (a b : List Rec) : respsOf (a ++ b) = respsOf a ++ respsOf b := by
  simp only [respsOf_eq, List.filterMap_append]

theorem mem_acksOf {l : List Rec} {a : String} (h : Rec.ack a ∈ l) : a ∈ acksOf l := by
  rw [acksOf_eq]; exact List.mem_filterMap.mpr ⟨_, h, rfl⟩

theorem mem_respsOf {l : List Rec} {f p : String} (h : Rec.response f p ∈ l) : (f, p) ∈ respsOf l := by
  rw [respsOf_eq]; exact List.mem_filterMap.mpr ⟨_, h, rfl⟩

/-- The select loop's invariant, for `C25_query_stream`: per channel, what was sent followed by what is still queued is what
Serf delivered while `Stream` runs (a prefix of it afterwards: the queues are abandoned), and `done` is sent exactly when
`Stream` returns without a failed send. -/
structure QInv (s : QS) : Prop where
  acks_live : s.stopped = false → acksOf s.out ++ s.ackQ = s.pushedAcks
  acks_pre : acksOf s.out <+: s.pushedAcks
  resps_live : s.stopped = false → respsOf s.out ++ s.respQ = s.pushedResps
  resps_pre : respsOf s.out <+: s.pushedResps
  no_done_live : s.stopped = false → s.out.all (!·.isDone) = true
  done_last : s.stopped = true → s.failed = true ∨ ∃ pre, s.out = pre ++ [.done] ∧ pre.all (!·.isDone) = true

theorem qinv_fresh (ackNil fired : Bool) : QInv { ackNil := ackNil, fired := fired } :=
  ⟨fun _ => rfl, ⟨[], rfl⟩, fun _ => rfl, ⟨[], rfl⟩, fun _ => rfl, fun h => nomatch h⟩

theorem QInv.fail {s s' : QS} (h : QInv s) (ho : s'.out = s.out) (ha : s'.pushedAcks = s.pushedAcks)
    (hr : s'.pushedResps = s.pushedResps) (hs : s'.stopped = true) (hf : s'.failed = true) : QInv s' :=
  have live : s'.stopped = false → False := fun hh => nomatch hs.symm.trans hh
  ⟨fun hh => (live hh).elim, by rw [ho, ha]; exact h.acks_pre, fun hh => (live hh).elim,
    by rw [ho, hr]; exact h.resps_pre, fun hh => (live hh).elim, fun _ => .inl hf⟩

/-- a record other than `done`, taken from the head of its channel, is sent while `Stream` runs -/
theorem QInv.sent {s s' : QS} (h : QInv s) (x : Rec) (hx : x.isDone = false) (hs : s.stopped = false)
    (ho : s'.out = s.out ++ [x]) (hst : s'.stopped = false)
    (ha : acksOf [x] ++ s'.ackQ = s.ackQ) (hr : respsOf [x] ++ s'.respQ = s.respQ)
    (hpa : s'.pushedAcks = s.pushedAcks) (hpr : s'.pushedResps = s.pushedResps) : QInv s' :=
  have ea : acksOf s'.out ++ s'.ackQ = s'.pushedAcks := by
    rw [ho, hpa, acksOf_append, List.append_assoc, ha]; exact h.acks_live hs
  have er : respsOf s'.out ++ s'.respQ = s'.pushedResps := by
    rw [ho, hpr, respsOf_append, List.append_assoc, hr]; exact h.resps_live hs
  { acks_live := fun _ => ea
    acks_pre := ⟨_, ea⟩
    resps_live := fun _ => er
    resps_pre := ⟨_, er⟩
    no_done_live := fun _ => by rw [ho, List.all_append, h.no_done_live hs]; simp [hx]
    done_last := fun hh => nomatch hst.symm.trans hh }

theorem qStep_inv (s : QS) (a : QAct) (h : QInv s) : QInv (qStep s a) := by
  -- the guard of a select case: past it `Stream` is still running
  have live : ∀ b : Bool, ¬ (s.stopped || b) = true → s.stopped = false := fun b hb =>
    Bool.eq_false_iff.mpr fun hs => hb (by rw [hs]; rfl)
  cases a with
  | pushAck x =>
    simp only [qStep]
    refine ite_prop _ (fun _ => h) fun _ => { h with
      acks_live := fun hs => by rw [← h.acks_live hs, List.append_assoc]
      acks_pre := h.acks_pre.trans (List.prefix_append _ _) }
  | pushResp f p =>
    simp only [qStep]
    refine ite_prop _ (fun _ => h) fun _ => { h with
      resps_live := fun hs => by rw [← h.resps_live hs, List.append_assoc]
      resps_pre := h.resps_pre.trans (List.prefix_append _ _) }
  | close => exact { h with }
  | fire => exact { h with }
  | selAck ok =>
    simp only [qStep]
    refine ite_prop _ (fun _ => h) fun hc0 => ?_
    have hs := live _ hc0
    cases hq : s.ackQ with
    | nil => exact ite_prop _ (fun _ => { h with acks_live := fun hh => hq ▸ h.acks_live hh }) fun _ => h
    | cons x r =>
      exact ite_prop _ (fun _ => h.sent (.ack x) rfl hs rfl hs hq.symm rfl rfl rfl) fun _ => h.fail rfl rfl rfl rfl rfl
  | selResp ok =>
    simp only [qStep]
    refine ite_prop _ (fun _ => h) fun hc0 => ?_
    have hs := live _ hc0
    cases hq : s.respQ with
    | nil => exact ite_prop _ (fun _ => { h with resps_live := fun hh => hq ▸ h.resps_live hh }) fun _ => h
    | cons x r =>
      exact ite_prop _ (fun _ => h.sent (.response x.1 x.2) rfl hs rfl hs rfl hq.symm rfl rfl) fun _ =>
        h.fail rfl rfl rfl rfl rfl
  | selDone ok =>
    simp only [qStep]
    refine ite_prop _ (fun _ => h) fun hc0 => ?_
    have hs := live _ hc0
    refine ite_prop _ (fun _ => ?_) fun _ => h.fail rfl rfl rfl rfl rfl
    exact {
      acks_live := fun hh => nomatch hh
      acks_pre := by rw [show acksOf (s.out ++ [.done]) = acksOf s.out by rw [acksOf_append]; exact List.append_nil _]; exact h.acks_pre
      resps_live := fun hh => nomatch hh
      resps_pre := by rw [show respsOf (s.out ++ [.done]) = respsOf s.out by rw [respsOf_append]; exact List.append_nil _]; exact h.resps_pre
      no_done_live := fun hh => nomatch hh
      done_last := fun _ => .inr ⟨s.out, rfl, h.no_done_live hs⟩ }

theorem qStep_stopped (s : QS) (a : QAct) (h : s.stopped = true) :
    (qStep s a).out = s.out ∧ (qStep s a).stopped = true := by
  cases a <;> simp [qStep, h] <;> split <;> simp [h]

theorem qRun_stopped (sched : List QAct) (s : QS) (h : s.stopped = true) :
    (qRun s sched).out = s.out ∧ (qRun s sched).stopped = true :=
  List.foldlRecOn sched qStep (motive := fun s' => s'.out = s.out ∧ s'.stopped = true) ⟨rfl, h⟩
    fun s' h' a _ => ⟨(qStep_stopped s' a h'.2).1.trans h'.1, (qStep_stopped s' a h'.2).2⟩

end SerfProofs.IpcStreams
