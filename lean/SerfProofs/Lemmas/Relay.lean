/-
Helper lemmas for C35: the selection loop of `kRandomMembers` preserves
"at most k, distinct names, all listed and passing the filter".
-/
import SerfModel.Model.Relay
namespace SerfProofs.Relay
open SerfModel SerfModel.Relay

/-- Loop invariant of `kRandomMembers`. -/
def Inv (k : Nat) (ms : List Member) (filt : Member → Bool) (acc : List Member) : Prop :=
  acc.length ≤ k ∧ (acc.map (·.name)).Nodup ∧ ∀ m ∈ acc, m ∈ ms ∧ filt m = false

theorem inv_snoc {k ms filt acc} {m : Member} (h : Inv k ms filt acc) (hlen : acc.length < k)
    (hm : m ∈ ms) (hf : filt m = false) (hnew : acc.any (fun x => x.name == m.name) = false) :
    Inv k ms filt (acc ++ [m]) := by
  obtain ⟨h1, h2, h3⟩ := h
  refine ⟨by simp; omega, ?_, fun x hx => ?_⟩
  · rw [List.map_append, List.nodup_append]
    refine ⟨h2, by simp, fun a ha b hb e => ?_⟩
    obtain ⟨x, hx, rfl⟩ := List.mem_map.mp ha
    rw [List.any_eq_false] at hnew
    exact hnew x hx (beq_iff_eq.mpr (e.trans (List.mem_singleton.mp hb)))
  · rcases List.mem_append.mp hx with hx | hx
    · exact h3 x hx
    · rw [List.mem_singleton.mp hx]
      exact ⟨hm, hf⟩

theorem selectLoop_inv (k : Nat) (ms : List Member) (filt : Member → Bool) (fuel : Nat) (picks : List Nat)
    (acc : List Member) (h : Inv k ms filt acc) : Inv k ms filt (selectLoop k ms filt fuel picks acc) := by
  fun_induction selectLoop k ms filt fuel picks acc with
  | case1 | case2 | case3 | case7 => exact h   -- the loop ends: no probe, pick or member left, or `k` reached
  | case4 _ _ _ _ _ _ _ _ ih | case5 _ _ _ _ _ _ _ _ _ ih => exact ih h   -- rejected by the filter; name already chosen
  | case6 _ _ hlen _ _ _ hg hf hd ih =>
    -- the one branch that selects: the probed member passed the filter and its name is new
    exact ih (inv_snoc h hlen (List.mem_of_getElem? hg) (by simpa using hf) (by simpa using hd))

end SerfProofs.Relay
