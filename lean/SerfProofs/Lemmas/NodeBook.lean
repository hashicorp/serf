/-
The bookkeeping invariant of the node model (`SerfModel.Node`) and its preservation by every
handler: the keys of `members` are unique, the `failed` / `left` lists have no duplicates and
list exactly the members whose stored status is failed / left.
Core Lean only.
-/
import SerfProofs.Lemmas.NodeSteps
namespace SerfProofs.NodeBook
open SerfModel SerfModel.Node SerfProofs.NodeLists SerfProofs.NodeSteps

structure BookInv (n : Node) : Prop where
  keys : (akeys n.members).Nodup
  failedNodup : n.failed.Nodup
  leftNodup : n.left.Nodup
  failedIff : ∀ x, x ∈ n.failed ↔ statusOf n x = some .failed
  leftIff : ∀ x, x ∈ n.left ↔ statusOf n x = some .left

theorem statusOf_ainsert {n n' : Node} {name : Name} {m' : Member}
    (hm : n'.members = ainsert n.members name m') (x : Name) :
    statusOf n' x = if x = name then some m'.status else statusOf n x := by
  unfold statusOf
  rw [hm, alookup_ainsert]
  by_cases h : x = name <;> simp [h]

theorem statusOf_aerase {n n' : Node} {name : Name}
    (hm : n'.members = aerase n.members name) (x : Name) :
    statusOf n' x = if x = name then none else statusOf n x := by
  unfold statusOf
  rw [hm]
  by_cases h : x = name
  · subst h; simp [alookup_aerase_self]
  · simp [h, alookup_aerase_ne h]

theorem BookInv.congr {n n' : Node} (h : BookInv n) (hm : n'.members = n.members)
    (hf : n'.failed = n.failed) (hl : n'.left = n.left) : BookInv n' := by
  refine ⟨?_, ?_, ?_, ?_, ?_⟩
  · rw [hm]; exact h.keys
  · rw [hf]; exact h.failedNodup
  · rw [hl]; exact h.leftNodup
  · intro x; rw [hf, statusOf_congr hm]; exact h.failedIff x
  · intro x; rw [hl, statusOf_congr hm]; exact h.leftIff x

theorem BookInv.disjoint {n : Node} (h : BookInv n) (x : Name) (hf : x ∈ n.failed) : x ∉ n.left := by
  intro hl
  have h1 := (h.failedIff x).mp hf
  have h2 := (h.leftIff x).mp hl
  rw [h1] at h2
  cases h2

/-- The record of one name is set or erased (`r` is its new status, if any); the two lists change
accordingly at that name and nowhere else. -/
theorem inv_set {n n' : Node} (h : BookInv n) (name : Name) (r : Option Status)
    (hk : (akeys n'.members).Nodup) (hs : ∀ x, statusOf n' x = if x = name then r else statusOf n x)
    (hfnd : n'.failed.Nodup) (hlnd : n'.left.Nodup)
    (hf : ∀ x, x ≠ name → (x ∈ n'.failed ↔ x ∈ n.failed))
    (hl : ∀ x, x ≠ name → (x ∈ n'.left ↔ x ∈ n.left))
    (hfn : name ∈ n'.failed ↔ r = some .failed) (hln : name ∈ n'.left ↔ r = some .left) : BookInv n' := by
  refine ⟨hk, hfnd, hlnd, fun x => ?_, fun x => ?_⟩
  · rw [hs]
    by_cases hx : x = name
    · rw [hx, if_pos rfl]; exact hfn
    · rw [if_neg hx, hf x hx]; exact h.failedIff x
  · rw [hs]
    by_cases hx : x = name
    · rw [hx, if_pos rfl]; exact hln
    · rw [if_neg hx, hl x hx]; exact h.leftIff x

theorem inv_update {n n' : Node} (h : BookInv n) (name : Name) (m' : Member)
    (hm : n'.members = ainsert n.members name m')
    (hfnd : n'.failed.Nodup) (hlnd : n'.left.Nodup)
    (hf : ∀ x, x ≠ name → (x ∈ n'.failed ↔ x ∈ n.failed))
    (hl : ∀ x, x ≠ name → (x ∈ n'.left ↔ x ∈ n.left))
    (hfn : name ∈ n'.failed ↔ m'.status = .failed)
    (hln : name ∈ n'.left ↔ m'.status = .left) : BookInv n' :=
  inv_set h name (some m'.status) (hm ▸ akeys_ainsert_nodup h.keys) (statusOf_ainsert hm) hfnd hlnd hf hl
    (by simpa using hfn) (by simpa using hln)

theorem inv_update_keep {n n' : Node} (h : BookInv n) (name : Name) {m' : Member}
    (hm : n'.members = ainsert n.members name m') (hf : n'.failed = n.failed) (hl : n'.left = n.left)
    (hsf : m'.status = .failed ↔ statusOf n name = some .failed)
    (hsl : m'.status = .left ↔ statusOf n name = some .left) : BookInv n' := by
  apply inv_update h name m' hm
  · rw [hf]; exact h.failedNodup
  · rw [hl]; exact h.leftNodup
  · intro x _; rw [hf]
  · intro x _; rw [hl]
  · rw [hf, h.failedIff, hsf]
  · rw [hl, h.leftIff, hsl]

theorem inv_erase {n n' : Node} (h : BookInv n) (name : Name)
    (hm : n'.members = aerase n.members name)
    (hfnd : n'.failed.Nodup) (hlnd : n'.left.Nodup)
    (hf : ∀ x, x ≠ name → (x ∈ n'.failed ↔ x ∈ n.failed))
    (hl : ∀ x, x ≠ name → (x ∈ n'.left ↔ x ∈ n.left))
    (hfn : name ∉ n'.failed) (hln : name ∉ n'.left) : BookInv n' :=
  inv_set h name none (hm ▸ akeys_aerase_nodup h.keys) (statusOf_aerase hm) hfnd hlnd hf hl
    (by simp [hfn]) (by simp [hln])

theorem inv_handleNodeJoin (n : Node) (x : Name) (h : BookInv n) : BookInv (handleNodeJoin n x).1 := by
  refine hnj_ind (C := fun r => BookInv r.1) n x (fun hm => ?_) (fun m hm => ?_)
  · have hs := statusOf_of_lookup_none hm
    refine inv_update_keep h x rfl rfl rfl ?_ ?_
    · rw [hs]; rcases newRec_status (alookup n.intents x) with e | e <;> simp [e]
    · rw [hs]; rcases newRec_status (alookup n.intents x) with e | e <;> simp [e]
  · have hs := statusOf_of_lookup hm
    by_cases hc : m.status = .failed ∨ m.status = .left
    · simp only [if_pos hc]
      refine inv_update h x _ rfl (nodup_removeOld h.failedNodup) (nodup_removeOld h.leftNodup) ?_ ?_ ?_ ?_
      · intro y hy; simp [mem_removeOld h.failedNodup, hy]
      · intro y hy; simp [mem_removeOld h.leftNodup, hy]
      · simp [mem_removeOld h.failedNodup]
      · simp [mem_removeOld h.leftNodup]
    · simp only [if_neg hc]
      refine inv_update_keep h x rfl rfl rfl ?_ ?_
      · rw [hs]; simp; intro e; exact hc (Or.inl e)
      · rw [hs]; simp; intro e; exact hc (Or.inr e)

theorem inv_handleNodeLeave (n : Node) (x : Name) (a : Nat) (h : BookInv n) :
    BookInv (handleNodeLeave n x a).1 := by
  refine hnl_ind (C := fun r => BookInv r.1) n x a (fun _ => h) (fun m hm hst => ?_) (fun m hm hst => ?_)
  · have hs := statusOf_of_lookup hm
    rw [hst] at hs
    have hxl : x ∉ n.left := by rw [h.leftIff, hs]; simp
    have hxf : x ∉ n.failed := by rw [h.failedIff, hs]; simp
    refine inv_update h x _ rfl h.failedNodup (nodup_concat h.leftNodup hxl) ?_ ?_ ?_ ?_
    · intro y _; exact Iff.rfl
    · intro y hy; simp [hy]
    · simp [hxf]
    · simp
  · have hs := statusOf_of_lookup hm
    rw [hst] at hs
    have hxl : x ∉ n.left := by rw [h.leftIff, hs]; simp
    have hxf : x ∉ n.failed := by rw [h.failedIff, hs]; simp
    refine inv_update h x _ rfl (nodup_concat h.failedNodup hxf) h.leftNodup ?_ ?_ ?_ ?_
    · intro y hy; simp [hy]
    · intro y _; exact Iff.rfl
    · simp
    · simp [hxl]

theorem handlePrune_members (n : Node) (x : Name) : (handlePrune n x).1.members = aerase n.members x := by
  unfold handlePrune
  split <;> rfl

theorem handlePrune_events (n : Node) (x : Name) : (handlePrune n x).2 = [(EvKind.reap, x)] := rfl

/-- `handlePrune` alone keeps the invariant only if the member is not still recorded as failed (the
Go code takes it out of the left list only); `handleLeaveIntent` moves a failed member to the left
list first, which is why the applied case goes through with and without prune. -/
theorem inv_handleLeaveIntent (n : Node) (x : Name) (lt : Nat) (p : Bool) (w : Nat) (h : BookInv n) :
    BookInv (handleLeaveIntent n x lt p w).1 := by
  refine hli_ind (C := fun r => BookInv r.1) n x lt p w (fun _ => h.congr rfl rfl rfl)
    (fun _ _ _ => h.congr rfl rfl rfl) (fun _ _ _ _ _ => h.congr rfl rfl rfl) (fun m hm hlt _ => ?_)
  have hs := statusOf_of_lookup hm
  have hnf : afterLeave m.status ≠ .failed := by cases m.status <;> simp [afterLeave]
  -- the claim without prune
  have h1 : BookInv { n with members := ainsert n.members x { m with ltime := lt, status := afterLeave m.status },
                             failed := if m.status = .failed then removeOld n.failed x else n.failed,
                             left := if m.status = .failed then n.left ++ [x] else n.left } := by
    by_cases hf : m.status = .failed
    · rw [if_pos hf, if_pos hf]
      have hxl : x ∉ n.left := by rw [h.leftIff, hs, hf]; simp
      refine inv_update h x _ rfl (nodup_removeOld h.failedNodup) (nodup_concat h.leftNodup hxl)
        ?_ ?_ ⟨fun e => absurd rfl ((mem_removeOld h.failedNodup).mp e).2, fun e => absurd e hnf⟩ ?_
      · intro y hy; rw [mem_removeOld h.failedNodup]; exact and_iff_left hy
      · intro y hy; simp [hy]
      · simp [afterLeave, hf]
    · rw [if_neg hf, if_neg hf]
      refine inv_update_keep h x rfl rfl rfl (iff_of_false hnf (by rw [hs]; simpa using hf)) ?_
      rw [hs, Option.some.injEq]
      cases hst : m.status <;> simp [afterLeave, hst] at hf ⊢
  cases p
  · exact h1.congr (congrArg (ainsert n.members x) (leaveUpd_of_lt hlt)) rfl rfl
  · -- then the prune, of a member that is not failed any more
    have hxf : x ∉ (if m.status = .failed then removeOld n.failed x else n.failed) := fun e =>
      hnf (Option.some.inj ((statusOf_of_lookup alookup_ainsert_self).symm.trans ((h1.failedIff x).mp e)))
    exact inv_erase h1 x aerase_ainsert.symm h1.failedNodup (nodup_removeOld h1.leftNodup)
      (fun _ _ => Iff.rfl) (fun y hy => (mem_removeOld h1.leftNodup).trans (and_iff_left hy)) hxf
      fun e => absurd rfl ((mem_removeOld h1.leftNodup).mp e).2

theorem inv_handleJoinIntent (n : Node) (x : Name) (lt : Nat) (wall : Nat) (h : BookInv n) :
    BookInv (handleJoinIntent n x lt wall).1 := by
  refine hji_ind (C := fun r => BookInv r.1) n x lt wall (fun _ => h.congr rfl rfl rfl)
    (fun _ _ _ => h.congr rfl rfl rfl) (fun m hm _ => ?_)
  -- a join intent turns leaving into alive and nothing else: failed / left are as before
  have hst : ∀ s, s = .failed ∨ s = .left → ((joinUpd lt m).status = s ↔ statusOf n x = some s) := by
    intro s hs
    rw [statusOf_of_lookup hm, Option.some.injEq]
    by_cases hl : m.status = .leaving
    · unfold joinUpd; split <;> rcases hs with rfl | rfl <;> simp [hl]
    · rw [joinUpd_status lt m hl]
  exact inv_update_keep h x rfl rfl rfl (hst _ (Or.inl rfl)) (hst _ (Or.inr rfl))

theorem inv_claim (c : Claim) (n : Node) (h : BookInv n) : BookInv (c.run n) := by
  cases c with
  | leave x lt p w => exact inv_handleLeaveIntent n x lt p w h
  | join x lt w => exact inv_handleJoinIntent n x lt w h

theorem akeys_eraseAll_nodup (ms : List (Name × Member)) (xs : List Name) (h : (akeys ms).Nodup) :
    (akeys (eraseAll ms xs)).Nodup := by
  induction xs generalizing ms with
  | nil => exact h
  | cons x xs ih => exact ih _ (akeys_aerase_nodup h)

theorem statusOf_eraseAll {n n' : Node} {xs : List Name} (hm : n'.members = eraseAll n.members xs) (x : Name) :
    statusOf n' x = if x ∈ xs then none else statusOf n x := by
  unfold statusOf
  rw [hm, alookup_eraseAll]
  by_cases h : x ∈ xs <;> simp [h]

theorem inv_eraseAll {n n' : Node} (h : BookInv n) (xs : List Name)
    (hm : n'.members = eraseAll n.members xs)
    (hfnd : n'.failed.Nodup) (hlnd : n'.left.Nodup)
    (hf : ∀ x, x ∈ n'.failed ↔ x ∈ n.failed ∧ x ∉ xs)
    (hl : ∀ x, x ∈ n'.left ↔ x ∈ n.left ∧ x ∉ xs) : BookInv n' := by
  refine ⟨?_, hfnd, hlnd, ?_, ?_⟩
  · rw [hm]; exact akeys_eraseAll_nodup _ _ h.keys
  · intro x
    rw [statusOf_eraseAll hm, hf, h.failedIff]
    by_cases hx : x ∈ xs <;> simp [hx]
  · intro x
    rw [statusOf_eraseAll hm, hl, h.leftIff]
    by_cases hx : x ∈ xs <;> simp [hx]

theorem mem_reapList_kept {ms : List (Name × Member)} {old : List Name} {now : Nat} {ov : Name → Nat → Nat}
    {t : Nat} {x : Name} :
    x ∈ (reapList ms old now ov t).1 ↔ x ∈ old ∧ expired ms now ov t x = false :=
  (reapLoop_spec _ old).1.mem_iff.trans (by simp)

theorem mem_reapList_reaped {ms : List (Name × Member)} {old : List Name} {now : Nat} {ov : Name → Nat → Nat}
    {t : Nat} {x : Name} :
    x ∈ (reapList ms old now ov t).2 ↔ x ∈ old ∧ expired ms now ov t x = true :=
  (reapLoop_spec _ old).2.mem_iff.trans (by simp)

theorem mem_reapList_kept_iff_not_reaped {ms : List (Name × Member)} {old : List Name} {now : Nat} {ov : Name → Nat → Nat}
    {t : Nat} {x : Name} :
    x ∈ (reapList ms old now ov t).1 ↔ x ∈ old ∧ x ∉ (reapList ms old now ov t).2 := by
  rw [mem_reapList_kept, mem_reapList_reaped]
  cases expired ms now ov t x <;> simp

theorem reapList_nodup {ms : List (Name × Member)} {old : List Name} {now : Nat} {ov : Name → Nat → Nat}
    {t : Nat} (h : old.Nodup) :
    (reapList ms old now ov t).1.Nodup ∧ (reapList ms old now ov t).2.Nodup :=
  ⟨(reapLoop_spec _ old).1.nodup_iff.mpr (h.filter _), (reapLoop_spec _ old).2.nodup_iff.mpr (h.filter _)⟩

theorem expired_congr {ms ms' : List (Name × Member)} {x : Name} (h : alookup ms' x = alookup ms x)
    (now : Nat) (ov : Name → Nat → Nat) (t : Nat) : expired ms' now ov t x = expired ms now ov t x := by
  unfold expired
  rw [h]

theorem reap_events_eq (n : Node) (now : Nat) (ov : Name → Nat → Nat) :
    (reap n now ov).2.events = (reapedFailed n now ov ++ reapedLeft n now ov).map (fun x => (EvKind.reap, x)) := rfl

theorem reap_failed_eq (n : Node) (now : Nat) (ov : Name → Nat → Nat) :
    (reap n now ov).1.failed = (reapList n.members n.failed now ov n.cfg.reconnect).1 := rfl

theorem reap_left_eq (n : Node) (now : Nat) (ov : Name → Nat → Nat) :
    (reap n now ov).1.left =
      (reapList (eraseAll n.members (reapedFailed n now ov)) n.left now ov n.cfg.tombstone).1 := rfl

theorem reap_intents (n : Node) (now : Nat) (ov : Name → Nat → Nat) :
    (reap n now ov).1.intents = reapIntents n.intents now n.cfg.intentTimeout := rfl

theorem mem_reapedFailed {n : Node} (h : BookInv n) (now : Nat) (ov : Name → Nat → Nat) (x : Name) :
    x ∈ reapedFailed n now ov ↔
      statusOf n x = some .failed ∧ expired n.members now ov n.cfg.reconnect x = true := by
  unfold reapedFailed
  rw [mem_reapList_reaped, h.failedIff]

theorem alookup_after_failed_pass {n : Node} (h : BookInv n) (now : Nat) (ov : Name → Nat → Nat) (x : Name)
    (hx : x ∈ n.left) : alookup (eraseAll n.members (reapedFailed n now ov)) x = alookup n.members x := by
  rw [alookup_eraseAll]
  have : x ∉ reapedFailed n now ov := by
    intro hm
    have := (mem_reapList_reaped.mp hm).1
    exact h.disjoint x this hx
  simp [this]

theorem mem_reapedLeft {n : Node} (h : BookInv n) (now : Nat) (ov : Name → Nat → Nat) (x : Name) :
    x ∈ reapedLeft n now ov ↔
      statusOf n x = some .left ∧ expired n.members now ov n.cfg.tombstone x = true := by
  unfold reapedLeft
  rw [mem_reapList_reaped, ← h.leftIff]
  exact and_congr_right fun hx => by rw [expired_congr (alookup_after_failed_pass h now ov x hx)]

theorem reaped_nodup {n : Node} (h : BookInv n) (now : Nat) (ov : Name → Nat → Nat) :
    (reapedFailed n now ov ++ reapedLeft n now ov).Nodup := by
  rw [List.nodup_append]
  refine ⟨(reapList_nodup h.failedNodup).2, (reapList_nodup h.leftNodup).2, ?_⟩
  intro a ha b hb e
  subst e
  have h1 := ((mem_reapedFailed h now ov a).mp ha).1
  have h2 := ((mem_reapedLeft h now ov a).mp hb).1
  rw [h1] at h2
  cases h2

theorem reap_spares {n : Node} (h : BookInv n) (now : Nat) (ov : Name → Nat → Nat) (x : Name)
    (hf : statusOf n x ≠ some .failed) (hl : statusOf n x ≠ some .left) :
    alookup (reap n now ov).1.members x = alookup n.members x := by
  rw [reap_alookup, if_neg]
  exact fun hm => (List.mem_append.mp hm).elim (fun hm => hf ((mem_reapedFailed h now ov x).mp hm).1)
    fun hm => hl ((mem_reapedLeft h now ov x).mp hm).1

/-- Two passes, each erasing from the map exactly what it takes off its own list; an entry of one
list is never on the other, so neither pass disturbs the other list. -/
theorem inv_reap (n : Node) (now : Nat) (ov : Name → Nat → Nat) (h : BookInv n) : BookInv (reap n now ov).1 := by
  have h1 : BookInv { n with failed := (reapList n.members n.failed now ov n.cfg.reconnect).1,
                             members := eraseAll n.members (reapedFailed n now ov) } :=
    inv_eraseAll h (reapedFailed n now ov) rfl (reapList_nodup h.failedNodup).1 h.leftNodup
      (fun _ => mem_reapList_kept_iff_not_reaped)
      (fun x => ⟨fun hx => ⟨hx, fun hm => h.disjoint x (mem_reapList_reaped.mp hm).1 hx⟩, And.left⟩)
  exact inv_eraseAll h1 (reapedLeft n now ov) rfl h1.failedNodup (reapList_nodup h.leftNodup).1
    (fun x => ⟨fun hx => ⟨hx, fun hm => h.disjoint x (mem_reapList_kept.mp hx).1
      (mem_reapList_reaped.mp hm).1⟩, And.left⟩)
    (fun _ => mem_reapList_kept_iff_not_reaped)

theorem inv_init (name : Name) (cfg : Config) : BookInv (Node.init name cfg) := by
  refine ⟨?_, ?_, ?_, ?_, ?_⟩
  · simp [Node.init, akeys]
  · simp [Node.init]
  · simp [Node.init]
  · intro x
    by_cases hx : name = x <;> simp [Node.init, statusOf, alookup_cons, hx]
  · intro x
    by_cases hx : name = x <;> simp [Node.init, statusOf, alookup_cons, hx]

theorem inv_step (n : Node) (op : Op) (h : BookInv n) : BookInv (step n op).1 :=
  step_ind (C := BookInv) n op (fun _ s => h.congr s.members s.failed s.left)
    (fun x _ => inv_handleNodeJoin n x h) (fun x a _ => inv_handleNodeLeave n x a h)
    (fun now ov _ => inv_reap n now ov h) (fun c _ m hm => inv_claim c m hm)

theorem inv_run (ops : List Op) : ∀ n : Node, BookInv n → BookInv (run n ops) := by
  induction ops with
  | nil => intro n h; exact h
  | cons op ops ih => intro n h; exact ih _ (inv_step n op h)

end SerfProofs.NodeBook
