import SerfProofs.Lemmas.PipelineLast
/-!
Progress of the pipeline: from every state reachable without loss there is a loss-free
continuation that drains it (handlers send what is left, every stage — upstream first — takes
everything in its queue, then its quiescent timer fires).  Together with
`Inv` (PipelineLast) this makes the hypothesis "drained" of `C16_last_matches` attainable
from everywhere.
-/
namespace SerfProofs.Pipeline
open SerfModel SerfModel.MemberCoalesce SerfModel.UserCoalesce SerfModel.CoalesceLoop SerfModel.Pipeline
open SerfProofs.MemberCoalesce SerfProofs.CoalesceLoop

/-- A running stage whose timers are consistent with what it holds: a member coalescer that
holds an event has its quiescent timer armed (so the event will come out). -/
def Ready : Stage → Prop
  | .memberCo s => s.done = false ∧ (s.c.latest ≠ [] → s.quiescent = true)
  | st => Pass st

def AllReady (l : List (Stage × List PEv)) : Prop := ∀ sq ∈ l, Ready sq.1

theorem Pass.ready {st : Stage} (h : Pass st) : Ready st := by
  cases st <;> simp_all [Pass, Ready]

theorem ready_step (st : Stage) (h : Ready st) (i : In PEv) (hi : isShutdown i = false) : Ready (st.step i).1 := by
  cases st with
  | memberCo s =>
    obtain ⟨hd, harm⟩ := h
    simp only [Stage.step, Ready]
    refine ⟨by rw [step_done]; simp [hd, hi], ?_⟩
    have hit := iter memberCoP s i
    generalize CoalesceLoop.step memberCoP s i = r at hit
    cases hit with
    | idle => exact harm
    | pass => exact harm
    | absorb => exact fun _ => rfl
    | flush => exact fun hne => absurd (flush_latest s.c) hne
  -- off the member coalescer `Ready` is `Pass` (`by exact`: the stage is known only from the goal);
  -- the member name plays no part in the second half of `pass_step`
  | _ => exact (pass_step _ (by exact h) i hi "").2.ready

theorem ready_act (st : Stage) (q : List PEv) (a : Act) (ha : lossless a = true) (h : Ready st) :
    Ready (act st q a).1 := by
  rcases act_lossless st q ha with ⟨i, q', rfl, hi, h'⟩ | h'
  · rw [h']; exact ready_step st h i hi
  · rw [h']; exact h

theorem run_ready (sched : List Step) (s : Pipe) (h : AllReady s.stages)
    (hl : sched.all (fun x => !x.isLoss) = true) : AllReady (sched.foldl Pipe.step s).stages :=
  run_invariant (I := fun s' => AllReady s'.stages)
    (fun s' x hx h' => forall_step ready_act s' x (fun _ _ e => lossless_at (e ▸ hx)) h') sched s hl h

theorem stagesOf_ready (cfg : Cfg) : AllReady (stagesOf cfg) :=
  forall_stagesOf cfg (fun _ => ⟨rfl, fun h => absurd rfl h⟩) rfl trivial trivial

/-- `stepAt` along a list of (position, action) pairs: the stages afterwards and all that reached EventCh. -/
def runS (l : List (Stage × List PEv)) : List (Nat × Act) → List (Stage × List PEv) × List PEv
  | [] => (l, [])
  | ka :: rest =>
    ((runS (stepAt l ka.1 ka.2).1 rest).1, (stepAt l ka.1 ka.2).2 ++ (runS (stepAt l ka.1 ka.2).1 rest).2)

theorem runS_append (l : List (Stage × List PEv)) (as bs : List (Nat × Act)) :
    runS l (as ++ bs) = ((runS (runS l as).1 bs).1, (runS l as).2 ++ (runS (runS l as).1 bs).2) := by
  fun_induction runS l as with
  | case1 => simp
  | case2 l ka rest ih => simp [runS, ih, List.append_assoc]

/-- The same action with one more stage downstream of it (positions count from the downstream end). -/
def lift (ka : Nat × Act) : Nat × Act := (ka.1 + 1, ka.2)

theorem runS_lift (rest : List (Stage × List PEv)) (sched : List (Nat × Act)) (st : Stage) (q : List PEv) :
    runS ((st, q) :: rest) (sched.map lift) = ((st, q ++ (runS rest sched).2) :: (runS rest sched).1, []) := by
  fun_induction runS rest sched generalizing q with
  | case1 => simp [runS]
  | case2 l ka sched ih =>
    simp only [List.map_cons, runS, lift, stepAt, List.nil_append]
    rw [ih]
    simp [List.append_assoc]

/-- Take everything that is queued, then let the quiescent timer fire. -/
def drainActs (q : List PEv) : List Act := List.replicate q.length Act.take ++ [Act.quiescent]

theorem quiescent_idle (st : Stage) (h : Ready st) : stageIdle ((st.step .quiescent).1, []) = true := by
  cases st with
  | memberCo s =>
    obtain ⟨hd, harm⟩ := h
    simp only [Stage.step, stageIdle, List.isEmpty_nil, Bool.true_and, List.isEmpty_iff]
    have hit := iter memberCoP s .quiescent
    generalize CoalesceLoop.step memberCoP s .quiescent = r at hit
    cases hit with
    | idle _ hidle =>
      -- not armed: it holds nothing
      apply Classical.byContradiction
      intro hne
      simp [hd, enabled, harm hne] at hidle
    | flush => exact flush_latest s.c
  | _ => rfl

theorem drain_stage (rest : List (Stage × List PEv)) (q : List PEv) : ∀ (st : Stage), Ready st →
    ∃ st' out, runS ((st, q) :: rest) ((drainActs q).map fun a => (0, a)) = ((st', []) :: rest, out) ∧
      stageIdle (st', []) = true := by
  induction q with
  | nil => intro st h; exact ⟨_, _, rfl, quiescent_idle st h⟩
  | cons e q' ih =>
    intro st h
    obtain ⟨st', out, h1, h2⟩ := ih _ (ready_step st h (.ev e) rfl)
    refine ⟨st', (st.step (.ev e)).2 ++ out, ?_, h2⟩
    simp only [drainActs, List.length_cons, List.replicate_succ, List.cons_append, List.map_cons, runS, stepAt,
      act] at h1 ⊢
    rw [h1]

/-- the draining schedule: first everything upstream (the tail of the list), then this stage -/
def drainSched : List (Stage × List PEv) → List (Nat × Act)
  | [] => []
  | (_, q) :: rest =>
    (drainSched rest).map lift ++ (drainActs (q ++ (runS rest (drainSched rest)).2)).map (fun a => (0, a))

theorem drainSched_lossless (l : List (Stage × List PEv)) : (drainSched l).all (fun ka => lossless ka.2) = true := by
  fun_induction drainSched l with
  | case1 => rfl
  | case2 _ q rest ih =>
    simp only [List.all_append, List.all_map, Bool.and_eq_true]
    exact ⟨ih, by simp [drainActs, lossless]⟩

theorem drainSched_ok (l : List (Stage × List PEv)) (h : AllReady l) :
    (runS l (drainSched l)).1.all stageIdle = true := by
  fun_induction drainSched l with
  | case1 => rfl
  | case2 st q rest ih =>
    obtain ⟨st', out, h1, h2⟩ := drain_stage (runS rest (drainSched rest)).1 (q ++ (runS rest (drainSched rest)).2)
      st (h (st, q) List.mem_cons_self)
    simp only [runS_append, runS_lift, h1, List.all_cons, Bool.and_eq_true]
    exact ⟨h2, ih fun x hx => h x (List.mem_cons_of_mem _ hx)⟩

def toSteps (sched : List (Nat × Act)) : List Step := sched.map (fun ka => Step.at ka.1 ka.2)

theorem run_toSteps (sched : List (Nat × Act)) : ∀ (s : Pipe),
    (toSteps sched).foldl Pipe.step s =
      { todo := s.todo, stages := (runS s.stages sched).1, recv := s.recv ++ (runS s.stages sched).2 } := by
  induction sched with
  | nil => intro s; simp [toSteps, runS]
  | cons ka sched ih =>
    intro s
    simp only [toSteps, List.map_cons, List.foldl_cons] at ih ⊢
    rw [ih]
    simp [Pipe.step, runS, List.append_assoc]

theorem toSteps_lossless (sched : List (Nat × Act)) (h : sched.all (fun ka => lossless ka.2) = true) :
    (toSteps sched).all (fun x => !x.isLoss) = true := by
  simpa [toSteps, List.all_map, Function.comp_def, isLoss_at] using h

theorem emits_todo (n : Nat) : ∀ (s : Pipe), ((List.replicate n Step.emit).foldl Pipe.step s).todo = s.todo.drop n := by
  induction n with
  | zero => intro s; rfl
  | succ n ih =>
    intro s
    rw [List.replicate_succ, List.foldl_cons, ih]
    simp only [Pipe.step]
    split
    · simp [*]
    · split <;> simp [*]

/-- one quantum: the handlers send the next `n` events, then the pipeline is drained -/
def quantumSteps (s : Pipe) (n : Nat) : List Step :=
  List.replicate n Step.emit ++ toSteps (drainSched ((List.replicate n Step.emit).foldl Pipe.step s).stages)

/-- the schedule of a history cut into quanta of the given sizes -/
def quantaSched (s : Pipe) : List Nat → List Step
  | [] => []
  | n :: ns => quantumSteps s n ++ quantaSched ((quantumSteps s n).foldl Pipe.step s) ns

theorem quantumSteps_lossless (s : Pipe) (n : Nat) : (quantumSteps s n).all (fun x => !x.isLoss) = true := by
  simp only [quantumSteps, List.all_append, Bool.and_eq_true]
  exact ⟨by simp [Step.isLoss], toSteps_lossless _ (drainSched_lossless _)⟩

theorem quantaSched_lossless (s : Pipe) (ns : List Nat) : (quantaSched s ns).all (fun x => !x.isLoss) = true := by
  fun_induction quantaSched s ns with
  | case1 => rfl
  | case2 s n ns ih =>
    simp only [List.all_append, Bool.and_eq_true]
    exact ⟨quantumSteps_lossless s n, ih⟩

theorem quantumSteps_state (s : Pipe) (n : Nat) (h : AllReady s.stages) :
    ((quantumSteps s n).foldl Pipe.step s).todo = s.todo.drop n ∧
    ((quantumSteps s n).foldl Pipe.step s).stages.all stageIdle = true := by
  simp only [quantumSteps, List.foldl_append, run_toSteps]
  exact ⟨emits_todo n s, drainSched_ok _ (run_ready _ s h (by simp [Step.isLoss]))⟩

theorem quantaSched_drained (s : Pipe) (ns : List Nat) (h : AllReady s.stages) (hidle : s.stages.all stageIdle = true)
    (hsum : ns.sum = s.todo.length) : ((quantaSched s ns).foldl Pipe.step s).drained = true := by
  fun_induction quantaSched s ns with
  | case1 s =>
    simp only [List.foldl_nil, Pipe.drained, Bool.and_eq_true, List.isEmpty_iff]
    exact ⟨List.length_eq_zero_iff.mp hsum.symm, hidle⟩
  | case2 s n ns ih =>
    simp only [List.sum_cons] at hsum
    obtain ⟨e1, e2⟩ := quantumSteps_state s n h
    rw [List.foldl_append]
    exact ih (run_ready _ s h (quantumSteps_lossless s n)) e2 (by rw [e1, List.length_drop]; omega)

end SerfProofs.Pipeline
