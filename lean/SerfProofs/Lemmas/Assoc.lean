/-
Lemmas about the association-list maps of `SerfModel.Prelude.Basic`
(`alookup`, `ainsert`, `aerase`): the facts every model built on them needs.
-/
import SerfModel.Prelude.Basic
namespace SerfModel
variable {α β : Type} [BEq α] [LawfulBEq α]
set_option linter.unusedSectionVars false

def akeys (m : List (α × β)) : List α := m.map (·.1)

@[simp] theorem alookup_nil (k : α) : alookup ([] : List (α × β)) k = none := rfl

theorem alookup_cons (p : α × β) (m : List (α × β)) (k : α) :
    alookup (p :: m) k = if p.1 == k then some p.2 else alookup m k := by
  unfold alookup
  simp only [List.find?_cons]
  cases h : p.1 == k <;> simp

theorem alookup_eq_none_iff (m : List (α × β)) (k : α) : alookup m k = none ↔ k ∉ akeys m := by
  simp only [alookup, akeys, Option.map_eq_none_iff, List.find?_eq_none, List.mem_map, beq_iff_eq]
  exact ⟨fun h ⟨p, hp, e⟩ => h p hp e, fun h p hp e => h ⟨p, hp, e⟩⟩

theorem alookup_isSome_iff (m : List (α × β)) (k : α) : (alookup m k).isSome ↔ k ∈ akeys m := by
  have := alookup_eq_none_iff m k
  cases h : alookup m k <;> simp_all

theorem mem_of_alookup {m : List (α × β)} {k : α} {v : β} (h : alookup m k = some v) : (k, v) ∈ m := by
  obtain ⟨p, hp, rfl⟩ := Option.map_eq_some_iff.mp h
  have hk := List.find?_some hp
  exact eq_of_beq hk ▸ List.mem_of_find?_eq_some hp

theorem alookup_of_mem_nodup {m : List (α × β)} (hnd : (akeys m).Nodup) {k : α} {v : β} (h : (k, v) ∈ m) :
    alookup m k = some v := by
  induction m with
  | nil => simp at h
  | cons p m ih =>
    rw [alookup_cons]
    simp only [akeys, List.map_cons, List.nodup_cons] at hnd
    rcases List.mem_cons.mp h with h | h
    · subst h; simp
    · have : ¬ (p.1 == k) := by
        intro e
        have e' := eq_of_beq e
        apply hnd.1
        rw [e']
        exact List.mem_map_of_mem (f := (·.1)) h
      simp only [this, Bool.false_eq_true, ↓reduceIte]
      exact ih hnd.2 h

theorem alookup_map_of_mem {σ : Type} (key : σ → α) (val : σ → β) (l : List σ) (hnd : (l.map key).Nodup) {a : σ}
    (ha : a ∈ l) : alookup (l.map fun x => (key x, val x)) (key a) = some (val a) :=
  alookup_of_mem_nodup (by rwa [akeys, List.map_map]) (List.mem_map_of_mem ha)

theorem akeys_ainsert_of_mem (m : List (α × β)) (k : α) (v : β) (h : k ∈ akeys m) :
    akeys (ainsert m k v) = akeys m := by
  have hany : m.any (·.1 == k) = true := by
    simp only [akeys, List.mem_map] at h
    obtain ⟨p, hp, rfl⟩ := h
    exact List.any_eq_true.mpr ⟨p, hp, by simp⟩
  simp only [ainsert, hany, ↓reduceIte, akeys, List.map_map]
  apply List.map_congr_left
  intro p _
  by_cases e : p.1 == k
  · simp [e]; exact (eq_of_beq e).symm
  · simp [e]

theorem akeys_ainsert_of_not_mem (m : List (α × β)) (k : α) (v : β) (h : k ∉ akeys m) :
    akeys (ainsert m k v) = akeys m ++ [k] := by
  have hany : m.any (·.1 == k) = false := by
    rw [Bool.eq_false_iff]
    intro ha
    obtain ⟨p, hp, e⟩ := List.any_eq_true.mp ha
    apply h
    have := eq_of_beq e
    rw [← this]
    exact List.mem_map_of_mem (f := (·.1)) hp
  simp [ainsert, hany, akeys]

omit [BEq α] [LawfulBEq α] in
theorem nodup_concat {l : List α} {a : α} (h : l.Nodup) (ha : a ∉ l) : (l ++ [a]).Nodup :=
  (List.perm_append_singleton a l).nodup_iff.mpr (List.nodup_cons.mpr ⟨ha, h⟩)

theorem akeys_ainsert_nodup {m : List (α × β)} {k : α} {v : β} (h : (akeys m).Nodup) :
    (akeys (ainsert m k v)).Nodup := by
  by_cases hk : k ∈ akeys m
  · rw [akeys_ainsert_of_mem m k v hk]; exact h
  · rw [akeys_ainsert_of_not_mem m k v hk]
    exact nodup_concat h hk

theorem mem_akeys_ainsert (m : List (α × β)) (k : α) (v : β) (x : α) :
    x ∈ akeys (ainsert m k v) ↔ x = k ∨ x ∈ akeys m := by
  by_cases hk : k ∈ akeys m
  · rw [akeys_ainsert_of_mem m k v hk]
    constructor
    · exact Or.inr
    · rintro (rfl | h)
      · exact hk
      · exact h
  · rw [akeys_ainsert_of_not_mem m k v hk]
    simp [or_comm]

theorem mem_ainsert {m : List (α × β)} {k : α} {v : β} {p : α × β} (h : p ∈ ainsert m k v) :
    p = (k, v) ∨ (p ∈ m ∧ p.1 ≠ k) := by
  unfold ainsert at h
  split at h
  · obtain ⟨q, hq, rfl⟩ := List.mem_map.mp h
    by_cases e : q.1 == k
    · exact Or.inl (if_pos e)
    · rw [if_neg e]
      exact Or.inr ⟨hq, fun e' => e (beq_iff_eq.mpr e')⟩
  · next hany =>
    rcases List.mem_append.mp h with h | h
    · exact Or.inr ⟨h, fun e => hany (List.any_eq_true.mpr ⟨p, h, beq_iff_eq.mpr e⟩)⟩
    · exact Or.inl (List.mem_singleton.mp h)

theorem mem_ainsert_ne {m : List (α × β)} {k : α} {v : β} {x : α} {i : β} (hx : x ≠ k)
    (h : (x, i) ∈ ainsert m k v) : (x, i) ∈ m :=
  (mem_ainsert h).elim (fun e => absurd (congrArg Prod.fst e) hx) (·.1)

theorem mem_ainsert_self {m : List (α × β)} {k : α} {v : β} {i : β}
    (h : (k, i) ∈ ainsert m k v) : i = v :=
  (mem_ainsert h).elim (congrArg Prod.snd) fun h' => absurd rfl h'.2

theorem ainsert_cons_ne (p : α × β) (m : List (α × β)) (k : α) (v : β) (hp : ¬ (p.1 == k)) :
    ainsert (p :: m) k v = p :: ainsert m k v := by
  by_cases hany : m.any (·.1 == k) <;> simp [ainsert, hp, hany]

theorem alookup_ainsert_self {m : List (α × β)} {k : α} {v : β} : alookup (ainsert m k v) k = some v := by
  induction m with
  | nil => simp [ainsert, alookup_cons]
  | cons p m ih =>
    by_cases hp : p.1 == k
    · simp [ainsert, hp, alookup_cons]
    · rw [ainsert_cons_ne p m k v hp, alookup_cons]; simp [hp, ih]

theorem alookup_ainsert_ne {m : List (α × β)} {k : α} {v : β} {x : α} (h : x ≠ k) :
    alookup (ainsert m k v) x = alookup m x := by
  have hk : ¬ (k == x) := fun e => h (eq_of_beq e).symm
  have hmap : ∀ l : List (α × β), alookup (l.map fun q => if q.1 == k then (k, v) else q) x = alookup l x := by
    intro l
    induction l with
    | nil => rfl
    | cons q l ih =>
      rw [List.map_cons, alookup_cons, alookup_cons, ih]
      by_cases hq : q.1 == k
      · have hqx : ¬ (q.1 == x) := fun e => h ((eq_of_beq e).symm.trans (eq_of_beq hq))
        rw [if_pos hq, if_neg hk, if_neg hqx]
      · rw [if_neg hq]
  unfold ainsert
  split
  · exact hmap m
  · simp [alookup, List.find?_append, hk]

theorem alookup_ainsert (m : List (α × β)) (k : α) (v : β) (x : α) :
    alookup (ainsert m k v) x = if x == k then some v else alookup m x := by
  by_cases h : x = k
  · subst h; simp [alookup_ainsert_self]
  · have : ¬ (x == k) := by intro e; exact h (eq_of_beq e)
    simp [this, alookup_ainsert_ne h]

/-- `alookup_ainsert` with the test the other way round. -/
theorem alookup_ainsert_flip (m : List (α × β)) (k : α) (v : β) (x : α) :
    alookup (ainsert m k v) x = if k == x then some v else alookup m x := by
  rw [alookup_ainsert, BEq.comm]

theorem alookup_filter_key (c : α → Bool) (m : List (α × β)) (k : α) :
    alookup (m.filter fun p => c p.1) k = if c k then alookup m k else none := by
  induction m with
  | nil => simp
  | cons p m ih =>
    by_cases hp : p.1 = k
    · subst hp
      cases hc : c p.1 <;> simp [hc, alookup_cons, ih]
    · cases hc : c p.1 <;> simp [hc, alookup_cons, ih, hp]

omit [BEq α] [LawfulBEq α] in
theorem akeys_filter_nodup (q : α × β → Bool) (m : List (α × β)) (h : (akeys m).Nodup) :
    (akeys (m.filter q)).Nodup :=
  (List.filter_sublist.map _).nodup h

theorem alookup_aerase_self {m : List (α × β)} {k : α} : alookup (aerase m k) k = none := by
  simp [aerase, alookup_filter_key fun y => !(y == k)]

theorem alookup_aerase_ne {m : List (α × β)} {k x : α} (h : x ≠ k) : alookup (aerase m k) x = alookup m x := by
  simp [aerase, alookup_filter_key fun y => !(y == k), h]

theorem alookup_aerase (m : List (α × β)) (k x : α) :
    alookup (aerase m k) x = if x == k then none else alookup m x := by
  rw [aerase, alookup_filter_key fun y => !(y == k)]
  cases x == k <;> rfl

omit [LawfulBEq α] in
theorem mem_aerase {m : List (α × β)} {k : α} {p : α × β} (h : p ∈ aerase m k) : p ∈ m :=
  (List.mem_filter.mp h).1

theorem eq_nil_of_alookup_none (m : List (α × β)) (h : ∀ k, alookup m k = none) : m = [] := by
  cases m with
  | nil => rfl
  | cons p t => have := h p.1; rw [alookup_cons, if_pos (beq_iff_eq.mpr rfl)] at this; cases this

omit [BEq α] [LawfulBEq α] in
theorem akeys_perm {l1 l2 : List (α × β)} (h : l1.Perm l2) : (akeys l1).Perm (akeys l2) := h.map _

theorem alookup_perm {l1 l2 : List (α × β)} (h : l1.Perm l2) (hnd : (akeys l2).Nodup) (k : α) :
    alookup l1 k = alookup l2 k := by
  cases h1 : alookup l1 k with
  | some v => exact (alookup_of_mem_nodup hnd (h.mem_iff.mp (mem_of_alookup h1))).symm
  | none =>
    have hk : k ∉ akeys l1 := (alookup_eq_none_iff l1 k).mp h1
    exact ((alookup_eq_none_iff l2 k).mpr fun hm => hk ((akeys_perm h).mem_iff.mpr hm)).symm

theorem aerase_ainsert {m : List (α × β)} {k : α} {v : β} : aerase (ainsert m k v) k = aerase m k := by
  have hmap : ∀ l : List (α × β), aerase (l.map fun p => if p.1 == k then (k, v) else p) k = aerase l k := by
    intro l
    induction l with
    | nil => rfl
    | cons q l ih =>
      simp only [aerase] at ih ⊢
      by_cases hq : q.1 == k <;> simp [hq, ih]
  unfold ainsert
  split
  · exact hmap m
  · simp [aerase, List.filter_append]

theorem akeys_aerase_nodup {m : List (α × β)} {k : α} (h : (akeys m).Nodup) : (akeys (aerase m k)).Nodup :=
  akeys_filter_nodup _ m h

theorem mem_akeys_aerase (m : List (α × β)) (k x : α) : x ∈ akeys (aerase m k) ↔ x ≠ k ∧ x ∈ akeys m := by
  simp only [akeys, aerase, List.mem_map, List.mem_filter]
  constructor
  · rintro ⟨p, ⟨hp, hne⟩, rfl⟩
    exact ⟨by intro e; simp [e] at hne, p, hp, rfl⟩
  · rintro ⟨hne, p, hp, rfl⟩
    exact ⟨p, ⟨hp, by simpa using hne⟩, rfl⟩

/-- `maps.Copy`-style fold: a key of `l` (no duplicate keys) wins, otherwise the accumulator. -/
theorem alookup_foldl_ainsert (l acc : List (α × β)) (hl : (akeys l).Nodup) (k : α) :
    alookup (l.foldl (fun acc p => ainsert acc p.1 p.2) acc) k = (alookup l k).or (alookup acc k) := by
  induction l generalizing acc with
  | nil => simp
  | cons p rest ih =>
    have hl : p.1 ∉ akeys rest ∧ (akeys rest).Nodup := List.nodup_cons.mp hl
    rw [List.foldl_cons, ih _ hl.2, alookup_ainsert, alookup_cons]
    by_cases hk : k = p.1
    · rw [hk, (alookup_eq_none_iff rest p.1).mpr hl.1]
      simp
    · simp [hk, Ne.symm hk]

theorem akeys_foldl_ainsert_nodup (l acc : List (α × β)) (hacc : (akeys acc).Nodup) :
    (akeys (l.foldl (fun acc p => ainsert acc p.1 p.2) acc)).Nodup :=
  List.foldlRecOn (motive := fun m => (akeys m).Nodup) l _ hacc fun _ h _ _ => akeys_ainsert_nodup h

theorem alookup_map_snd {γ : Type} (f : β → γ) (ms : List (α × β)) (k : α) :
    alookup (ms.map (fun p => (p.1, f p.2))) k = (alookup ms k).map f := by
  induction ms with
  | nil => rfl
  | cons p ms ih =>
    simp only [List.map_cons, alookup_cons]
    split
    · rfl
    · exact ih

end SerfModel
