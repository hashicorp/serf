/-
The value view of the configuration-merge interpreter (`SerfModel.Config`: `merge`, the reader, `decodePost`), for an
ARBITRARY rule table `t`, under the conditions `Props/C31.lean` evaluates on the regenerated one: field names
distinct, every rule applied to a kind it fits.  The heap view is in `Lemmas/ConfigHeap.lean`.
-/
import SerfModel.Model.Config
import SerfProofs.Lemmas.Assoc
namespace SerfProofs.Config
open SerfModel SerfModel.Config

def names (t : List FieldSpec) : List String := t.map (·.name)

theorem get_map (g : FieldSpec → FieldVal) {t : List FieldSpec} (hnd : (names t).Nodup) {fs : FieldSpec} (hfs : fs ∈ t) :
    get (t.map fun x => (x.name, g x)) fs.name = g fs := by
  show (alookup _ _).getD _ = _
  rw [alookup_map_of_mem FieldSpec.name g t hnd hfs]; rfl

theorem get_merge (t : List FieldSpec) (hnd : (names t).Nodup) (a b : Config) (fs : FieldSpec) (hfs : fs ∈ t) :
    get (merge t a b) fs.name = mergeVal fs.rule (get a fs.name) (get b fs.name) :=
  get_map (fun x => mergeVal x.rule (get a x.name) (get b x.name)) hnd hfs

theorem get_zero (t : List FieldSpec) (hnd : (names t).Nodup) (fs : FieldSpec) (hfs : fs ∈ t) :
    get (zero t) fs.name = zeroVal fs.kind :=
  get_map (fun x => zeroVal x.kind) hnd hfs

/-- later-wins choice -/
def over (b a : Option String) : Option String :=
  match b with
  | some v => some v
  | none => a

@[simp] theorem over_none_left (a : Option String) : over none a = a := rfl
@[simp] theorem over_none_right (b : Option String) : over b none = b := by cases b <;> rfl
theorem over_assoc (c b a : Option String) : over c (over b a) = over (over c b) a := by
  cases c <;> cases b <;> rfl

theorem alookup_copyInto {src dst : Tags} (hnd : (akeys src).Nodup) (k : String) :
    alookup (copyInto dst src) k = over (alookup src k) (alookup dst k) :=
  (alookup_foldl_ainsert src dst hnd k).trans (by cases alookup src k <;> rfl)

theorem akeys_copyInto_nodup {src dst : Tags} (h : (akeys dst).Nodup) : (akeys (copyInto dst src)).Nodup :=
  akeys_foldl_ainsert_nodup src dst h

/-- a Go map value: no duplicate keys -/
def tagsND (x : Option Tags) : Prop := (akeys (x.getD [])).Nodup

theorem tagsND_none : tagsND none := List.nodup_nil

/-- `f` combines two maps, the later one winning per key; the result is nil only if both are. -/
def Combines (f : Option Tags → Option Tags → Option Tags) : Prop :=
  ∀ x y, tagsND x → tagsND y → tagsND (f x y) ∧ (f x y).isSome = (x.isSome || y.isSome) ∧
    ∀ k, alookup ((f x y).getD []) k = over (alookup (y.getD []) k) (alookup (x.getD []) k)

theorem combines_mergeTags : Combines mergeTags := by
  intro x y hx hy
  unfold mergeTags
  split
  · exact ⟨tagsND_none, rfl, fun k => rfl⟩
  · rename_i hne
    refine ⟨akeys_copyInto_nodup (akeys_copyInto_nodup List.nodup_nil), ?_, fun k => ?_⟩
    · cases x <;> cases y <;> simp at hne ⊢
    · simp only [Option.getD_some]
      rw [alookup_copyInto hy, alookup_copyInto hx]
      simp

theorem combines_mergeTagsInPlace : Combines mergeTagsInPlace := by
  intro x y hx hy
  cases y with
  | none => exact ⟨hx, by simp [mergeTagsInPlace], fun k => by simp [mergeTagsInPlace]⟩
  | some b => exact ⟨akeys_copyInto_nodup hx, by simp [mergeTagsInPlace], alookup_copyInto hy⟩

theorem Combines.assoc {f} (hf : Combines f) {x y z : Option Tags} (hx : tagsND x) (hy : tagsND y) (hz : tagsND z) :
    valEq (.tags (f (f x y) z)) (.tags (f x (f y z))) := by
  obtain ⟨nxy, sxy, lxy⟩ := hf x y hx hy
  obtain ⟨nyz, syz, lyz⟩ := hf y z hy hz
  obtain ⟨_, s1, l1⟩ := hf (f x y) z nxy hz
  obtain ⟨_, s2, l2⟩ := hf x (f y z) hx nyz
  refine ⟨by rw [s1, s2, sxy, syz, Bool.or_assoc], fun k => ?_⟩
  rw [l1, l2, lxy, lyz, over_assoc]

theorem hasKind_tags_iff (x : Option Tags) : hasKind .tags (.tags x) = true ↔ tagsND x := by
  cases x with
  | none => exact ⟨fun _ => tagsND_none, fun _ => rfl⟩
  | some l => simp [hasKind, tagsND, akeys]

theorem hasKind_inv {k : Kind} {v : FieldVal} (h : hasKind k v = true) :
    match k with
    | .str => ∃ s, v = .str s
    | .int | .dur => ∃ i, v = .int i
    | .bool => ∃ b, v = .bool b
    | .list => ∃ l, v = .list l
    | .tags => ∃ x, v = .tags x ∧ tagsND x := by
  cases k <;> cases v <;> try cases h
  case tags.tags => exact ⟨_, rfl, (hasKind_tags_iff _).1 h⟩
  all_goals exact ⟨_, rfl⟩

theorem valEq_refl (v : FieldVal) : valEq v v := by
  cases v <;> simp [valEq]

/-! ### the two sorts of rule

Six of the ten rules SELECT: the result is the later value or the earlier one, and which of the two is decided by
looking at the later value alone (`takes`).  Such a merge is associative and keeps every type, whatever the values.
The other four BUILD a new list or map from both values, and need the values to be lists or maps. -/

def takes : Rule → FieldVal → Bool
  | .overrideIfNonEmpty, .str s => s ≠ ""
  | .overrideIfNonZero, .int i => i ≠ 0
  | .overrideIfPositive, .int i => i > 0
  | .orSwitch, .bool b => b
  | .always, _ => true
  | _, _ => false

def builds : Rule → Bool
  | .concat | .appendInPlace | .tagsFresh | .tagsInPlace => true
  | _ => false

theorem mergeVal_select {r : Rule} (hr : builds r = false) (a b : FieldVal) :
    mergeVal r a b = if takes r b = true then b else a := by
  cases r <;> cases hr <;> cases b <;> simp [mergeVal, takes]
  rename_i b; cases b <;> simp

theorem select_assoc {r : Rule} (hr : builds r = false) (a b c : FieldVal) :
    mergeVal r (mergeVal r a b) c = mergeVal r a (mergeVal r b c) := by
  simp only [mergeVal_select hr]
  by_cases hc : takes r c = true <;> simp [hc]

theorem compat_builds {r : Rule} {k : Kind} (hr : builds r = true) (hc : compat r k = true) :
    (k = .list ∧ (r = .concat ∨ r = .appendInPlace)) ∨ (k = .tags ∧ (r = .tagsFresh ∨ r = .tagsInPlace)) := by
  cases r <;> cases hr <;> cases k <;> cases hc <;> simp

theorem mergeVal_assoc (r : Rule) (k : Kind) (hc : compat r k = true) (a b c : FieldVal)
    (ha : hasKind k a = true) (hb : hasKind k b = true) (hcc : hasKind k c = true) :
    valEq (mergeVal r (mergeVal r a b) c) (mergeVal r a (mergeVal r b c)) := by
  cases hr : builds r with
  | false => rw [select_assoc hr]; exact valEq_refl _
  | true =>
    rcases compat_builds hr hc with ⟨rfl, hr⟩ | ⟨rfl, hr⟩
    · obtain ⟨x, rfl⟩ := hasKind_inv ha; obtain ⟨y, rfl⟩ := hasKind_inv hb; obtain ⟨z, rfl⟩ := hasKind_inv hcc
      rcases hr with rfl | rfl <;> simp [mergeVal, valEq]
    · obtain ⟨x, rfl, hx⟩ := hasKind_inv ha; obtain ⟨y, rfl, hy⟩ := hasKind_inv hb; obtain ⟨z, rfl, hz⟩ := hasKind_inv hcc
      rcases hr with rfl | rfl
      · exact combines_mergeTags.assoc hx hy hz
      · exact combines_mergeTagsInPlace.assoc hx hy hz

theorem hasKind_mergeVal (r : Rule) (k : Kind) (hc : compat r k = true) (a b : FieldVal)
    (ha : hasKind k a = true) (hb : hasKind k b = true) : hasKind k (mergeVal r a b) = true := by
  cases hr : builds r with
  | false => rw [mergeVal_select hr]; split <;> assumption
  | true =>
    rcases compat_builds hr hc with ⟨rfl, hr⟩ | ⟨rfl, hr⟩
    · obtain ⟨x, rfl⟩ := hasKind_inv ha; obtain ⟨y, rfl⟩ := hasKind_inv hb
      rcases hr with rfl | rfl <;> rfl
    · obtain ⟨x, rfl, hx⟩ := hasKind_inv ha; obtain ⟨y, rfl, hy⟩ := hasKind_inv hb
      rcases hr with rfl | rfl
      · exact (hasKind_tags_iff _).2 (combines_mergeTags x y hx hy).1
      · exact (hasKind_tags_iff _).2 (combines_mergeTagsInPlace x y hx hy).1

theorem hasKind_zeroVal (k : Kind) : hasKind k (zeroVal k) = true := by
  cases k <;> rfl

theorem WT_zero {t : List FieldSpec} (hnd : (names t).Nodup) : WT t (zero t) :=
  fun fs hfs => by rw [get_zero t hnd fs hfs]; exact hasKind_zeroVal fs.kind

/-- `WT` of a zero configuration changed entry by entry, without looking any field up by name: the kernel then
evaluates `hasKind` per row and compares no field names (evaluating `WT t c` itself compares them all pairwise). -/
theorem WT_map_zero {t : List FieldSpec} (hnd : (names t).Nodup) (g : String × FieldVal → String × FieldVal)
    (hg : ∀ p, (g p).1 = p.1) (h : ∀ fs ∈ t, hasKind fs.kind (g (fs.name, zeroVal fs.kind)).2 = true) :
    WT t ((zero t).map g) := by
  have e : (zero t).map g = t.map fun fs => (fs.name, (g (fs.name, zeroVal fs.kind)).2) := by
    rw [zero, List.map_map]
    exact List.map_congr_left fun fs _ => Prod.ext (hg _) rfl
  intro fs hfs
  rw [e, get_map _ hnd hfs]
  exact h fs hfs

section
variable {t : List FieldSpec} (hnd : (names t).Nodup) (hc : ∀ fs ∈ t, compat fs.rule fs.kind = true)
include hnd hc

theorem merge_wt {a b : Config} (ha : WT t a) (hb : WT t b) : WT t (merge t a b) := by
  intro fs hfs
  rw [get_merge t hnd a b fs hfs]
  exact hasKind_mergeVal fs.rule fs.kind (hc fs hfs) _ _ (ha fs hfs) (hb fs hfs)

theorem merge_assoc {a b c : Config} (ha : WT t a) (hb : WT t b) (hcc : WT t c) :
    ∀ fs ∈ t, valEq (get (merge t (merge t a b) c) fs.name) (get (merge t a (merge t b c)) fs.name) := by
  intro fs hfs
  rw [get_merge t hnd _ c fs hfs, get_merge t hnd a b fs hfs, get_merge t hnd a _ fs hfs, get_merge t hnd b c fs hfs]
  exact mergeVal_assoc fs.rule fs.kind (hc fs hfs) _ _ _ (ha fs hfs) (hb fs hfs) (hcc fs hfs)

end

theorem allOk_append (xs ys : List (Option Config)) :
    allOk (xs ++ ys) = match allOk xs with
      | none => none
      | some l => (allOk ys).map (l ++ ·) := by
  induction xs with
  | nil => simp [allOk]
  | cons x xs ih =>
    cases x with
    | none => simp [allOk]
    | some c =>
      simp only [List.cons_append, allOk, ih]
      cases allOk xs with
      | none => simp
      | some l => cases allOk ys <;> simp

theorem readDir_eq (t : List FieldSpec) (es : List DirEnt) : ∀ acc,
    readDir t es acc =
      (allOk ((es.filter (fun e => !e.isDir && isJson e.name)).map (·.cfg))).map (fun cs => cs.foldl (merge t) acc) := by
  induction es with
  | nil => intro acc; simp [readDir, allOk]
  | cons e es ih =>
    intro acc
    by_cases hd : e.isDir = true
    · simp [readDir, hd, ih]
    · by_cases hj : isJson e.name = true
      · cases hc : e.cfg with
        | none => simp [readDir, hd, hj, hc, allOk]
        | some c =>
          simp only [readDir, hd, hj, hc, ih]
          simp [allOk, hd, hj, hc, Option.map_map, Function.comp_def]
      · simp [readDir, hd, hj, ih]

theorem readLoop_eq (t : List FieldSpec) (ps : List PathArg) : ∀ acc,
    readLoop t ps acc = (allOk (sources ps)).map (fun cs => cs.foldl (merge t) acc) := by
  induction ps with
  | nil => intro acc; simp [readLoop, sources, allOk]
  | cons p ps ih =>
    intro acc
    cases p with
    | unreadable => simp [readLoop, sources, allOk]
    | file c =>
      cases c with
      | none => simp [readLoop, sources, allOk]
      | some c => simp [readLoop, sources, allOk, ih, Option.map_map, Function.comp_def]
    | dir ents =>
      simp only [readLoop, sources, allOk_append, readDir_eq, dirSources]
      cases allOk (((sortEnts ents).filter (fun e => !e.isDir && isJson e.name)).map (·.cfg)) with
      | none => simp
      | some l =>
        simp only [Option.map_some, ih]
        cases allOk (sources ps) <;> simp

/-! ### the shape interpreter at the canonical shape

Every field of `canonicalRead` is a literal, so one unfolding of both interpreters leaves the same `if`s and
`match`es up to computing those fields (`true && x`, `mergeBy t .resultFirst`, `orderEnts .ascending`): `rfl`. -/

theorem readDirS_canonical (t : List FieldSpec) (es : List DirEnt) : ∀ acc,
    readDirS canonicalRead t es acc = readDir t es acc := by
  induction es with
  | nil => intro acc; rfl
  | cons e es ih =>
    intro acc
    simp only [readDirS, readDir, ih]
    rfl

theorem readLoopS_canonical (t : List FieldSpec) (ps : List PathArg) : ∀ acc,
    readLoopS canonicalRead t ps acc = readLoop t ps acc := by
  induction ps with
  | nil => intro acc; rfl
  | cons p ps ih =>
    intro acc
    cases p with
    | unreadable => rfl
    | file c =>
      cases c with
      | none => rfl
      | some c =>
        simp only [readLoopS, readLoop, ih]
        rfl
    | dir ents =>
      simp only [readLoopS, readLoop, ih, readDirS_canonical]
      rfl

theorem readPathsS_canonical (t : List FieldSpec) (ps : List PathArg) :
    readPathsS canonicalRead t ps = readPaths t ps := readLoopS_canonical t ps (zero t)

theorem setField_eq_ainsert (c : Config) (d : String) (v : FieldVal) (h : c.any (·.1 == d) = true) :
    setField c d v = ainsert c d v := by
  rw [ainsert, if_pos h]
  rfl

/-- "The field `d` is there" is given as: it reads as something other than `get`'s default. -/
theorem get_setField (c : Config) (d : String) (v : FieldVal) (f : String) (h : get c d ≠ .str "") :
    get (setField c d v) f = if f = d then v else get c f := by
  have hp : c.any (·.1 == d) = true := by
    cases ha : alookup c d with
    | none => exact absurd (by rw [SerfModel.Config.get, ha]; rfl) h
    | some x => exact List.any_eq_true.mpr ⟨_, mem_of_alookup ha, beq_self_eq_true d⟩
  rw [SerfModel.Config.get, setField_eq_ainsert c d v hp, alookup_ainsert]
  by_cases hf : f = d
  · simp [hf]
  · simp [hf, SerfModel.Config.get]

/-- What `decodePost` makes of `c`: an error only for a non-empty raw string that does not parse; otherwise each
pair's duration field holds the parsed value (its old value when the raw string is empty) and no other field changes. -/
def DecodeOK (parseDur : String → Option Int) (pairs : List (String × String)) (c : Config) : Option Config → Prop
  | none => ∃ pr ∈ pairs, ∃ s, get c pr.1 = .str s ∧ s ≠ "" ∧ parseDur s = none
  | some c' => (∀ f, f ∉ pairs.map (·.2) → get c' f = get c f) ∧
      ∀ pr ∈ pairs, ∃ s, get c pr.1 = .str s ∧
        (s = "" → get c' pr.2 = get c pr.2) ∧ (s ≠ "" → ∃ n, parseDur s = some n ∧ get c' pr.2 = .int n)

theorem decodePost_spec (parseDur : String → Option Int) (pairs : List (String × String)) : ∀ (c : Config),
    (∀ pr ∈ pairs, ∀ pr' ∈ pairs, pr.1 ≠ pr'.2) → (pairs.map (·.2)).Nodup →
    (∀ pr ∈ pairs, hasKind .str (get c pr.1) = true) → (∀ pr ∈ pairs, hasKind .dur (get c pr.2) = true) →
    DecodeOK parseDur pairs c (decodePost parseDur pairs c) := by
  induction pairs with
  | nil => intro c _ _ _ _; simp [decodePost, DecodeOK]
  | cons pr rest ih =>
    intro c hdisj hnd hraw hdur
    obtain ⟨s, hs⟩ := hasKind_inv (hraw pr (by simp))
    simp only [List.map_cons, List.nodup_cons] at hnd
    -- whatever this step makes of `c`, it leaves every field but `pr.2` alone, so the rest runs as it would from `c`
    have rest_from : ∀ c1 : Config, (∀ f, f ≠ pr.2 → get c1 f = get c f) →
        ((s = "" → get c1 pr.2 = get c pr.2) ∧ (s ≠ "" → ∃ n, parseDur s = some n ∧ get c1 pr.2 = .int n)) →
        DecodeOK parseDur (pr :: rest) c (decodePost parseDur rest c1) := by
      intro c1 h1 hself
      have hraw1 : ∀ p ∈ rest, get c1 p.1 = get c p.1 := fun p hp => h1 _ (hdisj p (by simp [hp]) pr (by simp))
      have hdur1 : ∀ p ∈ rest, get c1 p.2 = get c p.2 := fun p hp => h1 _ (fun e => hnd.1 (e ▸ List.mem_map_of_mem hp))
      have := ih c1 (fun p hp p' hp' => hdisj p (by simp [hp]) p' (by simp [hp'])) hnd.2
        (fun p hp => by rw [hraw1 p hp]; exact hraw p (by simp [hp]))
        (fun p hp => by rw [hdur1 p hp]; exact hdur p (by simp [hp]))
      generalize decodePost parseDur rest c1 = o at this ⊢
      cases o with
      | none =>
        obtain ⟨p, hp, s', e, h2, h3⟩ := this
        exact ⟨p, by simp [hp], s', by rw [← hraw1 p hp]; exact e, h2, h3⟩
      | some c' =>
        obtain ⟨g1, g2⟩ := this
        refine ⟨fun f hf => ?_, fun p hp => ?_⟩
        · rw [g1 f (fun hm => hf (by simp [hm])), h1 f (fun e => hf (by simp [e]))]
        · rcases List.mem_cons.mp hp with rfl | hp
          · rw [g1 _ hnd.1]
            exact ⟨s, hs, hself⟩
          · obtain ⟨s', hs', ha, hb⟩ := g2 p hp
            exact ⟨s', by rw [← hraw1 p hp]; exact hs', fun e => by rw [ha e, hdur1 p hp], hb⟩
    simp only [decodePost, decodeStep, hs]
    by_cases hse : s = ""
    · simp only [hse, ne_eq, not_true_eq_false, if_false]
      exact rest_from c (fun _ _ => rfl) ⟨fun _ => rfl, fun h => absurd hse h⟩
    · simp only [ne_eq, hse, not_false_eq_true, if_true]
      cases hp : parseDur s with
      | none => exact ⟨pr, by simp, s, hs, hse, hp⟩
      | some n =>
        have hd : get c pr.2 ≠ .str "" := fun e => by
          have := hdur pr (by simp)
          rw [e] at this
          cases this
        exact rest_from (setField c pr.2 (.int n)) (fun f hf => by rw [get_setField c _ _ f hd, if_neg hf])
          ⟨fun e => absurd e hse, fun _ => ⟨n, hp, by rw [get_setField c _ _ _ hd, if_pos rfl]⟩⟩

theorem WT_get_of_any {t : List FieldSpec} {c : Config} (hc : WT t c) {f : String} {k : Kind}
    (h : t.any (fun fs => fs.name == f && fs.kind == k) = true) : hasKind k (get c f) = true := by
  obtain ⟨fs, hfs, hk⟩ := List.any_eq_true.mp h
  simp only [Bool.and_eq_true, beq_iff_eq] at hk
  rw [← hk.1, ← hk.2]
  exact hc fs hfs

end SerfProofs.Config
