import SerfProofs.Lemmas.Pipeline
/-!
Runs without loss (the tee never drops, no coalescer goroutine returns).  Stages other than the
member coalescer then forward every member event untouched (`Pass`).  A member coalescer merges and
suppresses, yet keeps the kind of the last event about each member: an event it replaces is not the
last one, and one it suppresses has the kind of the last one downstream (`Tracks`).
-/
namespace SerfProofs.Pipeline
open SerfModel SerfModel.MemberCoalesce SerfModel.UserCoalesce SerfModel.CoalesceLoop SerfModel.Pipeline
open SerfProofs.MemberCoalesce SerfProofs.CoalesceLoop

/-- The model's `lastKind m l` is `lastK (about m l)`. -/
def lastK (l : List MEv) : Option Kind := l.getLast?.map (·.kind)

theorem lastK_append (A B : List MEv) : lastK (A ++ B) = (lastK B <|> lastK A) := by
  unfold lastK
  rw [List.getLast?_append]
  cases B.getLast? <;> rfl

theorem lastK_congr {A B : List MEv} (h : lastK A = lastK B) (T : List MEv) : lastK (A ++ T) = lastK (B ++ T) := by
  rw [lastK_append, lastK_append, h]

/-- the actions that lose nothing: not the tee's drop, not a goroutine's return -/
def lossless : Act → Bool
  | .drop => false
  | .shutdown => false
  | _ => true

theorem isLoss_at (k : Nat) (a : Act) : (Step.at k a).isLoss = !lossless a := by
  cases a <;> rfl

theorem lossless_at {k : Nat} {a : Act} (h : (!(Step.at k a).isLoss) = true) : lossless a = true := by
  simpa [isLoss_at] using h

/-- A loss-free action hands the stage an input other than the shutdown, or leaves stage and queue alone. -/
theorem act_lossless (st : Stage) (q : List PEv) {a : Act} (ha : lossless a = true) :
    (∃ i q', q = evOf i ++ q' ∧ isShutdown i = false ∧ act st q a = ((st.step i).1, q', (st.step i).2)) ∨
    act st q a = (st, q, []) := by
  rcases act_eq st q a with ⟨i, q', rfl, hi, h⟩ | h | ⟨rfl, -⟩
  · refine .inl ⟨i, q', rfl, Bool.eq_false_iff.2 fun hs => ?_, h⟩
    rw [hi hs] at ha
    cases ha
  · exact .inr h
  · cases ha

/-- Stages that forward every member event untouched (all but the member coalescer), still running. -/
def Pass : Stage → Prop
  | .tee => True
  | .filter => True
  | .userCo s => s.done = false
  | .memberCo _ => False

def AllPass (l : List (Stage × List PEv)) : Prop := ∀ sq ∈ l, Pass sq.1

theorem pass_held {st : Stage} (h : Pass st) (m : String) : held m st = [] := by
  cases st <;> simp_all [Pass, held]

theorem pass_ok (st : Stage) (h : Pass st) : StageOK st := by
  cases st <;> simp_all [Pass, StageOK]

theorem pass_step (st : Stage) (hp : Pass st) (i : In PEv) (hi : isShutdown i = false) (m : String) :
    about m (st.step i).2 = about m (evOf i) ∧ Pass (st.step i).1 := by
  cases st with
  | tee => simp [tee_step, Pass]
  | filter => simp [filter_step i m, Pass]
  | userCo s =>
    simp only [Pass] at hp
    simp [Stage.step, Pass, userCo_about, step_done, hp, hi]
  | memberCo s => exact hp.elim

theorem pass_act (st : Stage) (q : List PEv) (hp : Pass st) (a : Act) (ha : lossless a = true) (m : String) :
    about m (act st q a).2.2 ++ about m (act st q a).2.1 = about m q ∧ Pass (act st q a).1 := by
  rcases act_lossless st q ha with ⟨i, q', rfl, hi, h⟩ | h
  · rw [h, about_append, (pass_step st hp i hi m).1]
    exact ⟨rfl, (pass_step st hp i hi m).2⟩
  · rw [h]; exact ⟨rfl, hp⟩

theorem flatS_pass (l : List (Stage × List PEv)) (h : AllPass l) (m : String) :
    flatS m l = l.flatMap (fun sq => about m sq.2) := by
  induction l with
  | nil => rfl
  | cons sq rest ih =>
    have h1 : Pass sq.1 := h sq List.mem_cons_self
    have h2 : AllPass rest := fun x hx => h x (List.mem_cons_of_mem _ hx)
    simp [flatS, seg, pass_held h1, ih h2]

theorem stepAt_pass (l : List (Stage × List PEv)) (k : Nat) (a : Act) (m : String) (hp : AllPass l)
    (ha : lossless a = true) : about m (stepAt l k a).2 ++ flatS m (stepAt l k a).1 = flatS m l := by
  fun_induction stepAt l k a with
  | case1 => simp [flatS, about_nil]
  | case2 st q rest a =>
    have hst : Pass st := hp (st, q) List.mem_cons_self
    obtain ⟨h1, h2⟩ := pass_act st q hst a ha m
    simp only [flatS, seg]
    rw [pass_held h2, pass_held hst, List.nil_append, List.nil_append, ← List.append_assoc, h1]
  | case3 st q rest k a ih =>
    simp only [flatS, seg, about_nil, List.nil_append, about_append, List.append_assoc]
    rw [ih (fun x hx => hp x (List.mem_cons_of_mem _ hx)) ha]

theorem run_pass (sched : List Step) (s : Pipe) (hp : AllPass s.stages)
    (hl : sched.all (fun x => !x.isLoss) = true) (m : String) :
    flat m (sched.foldl Pipe.step s) = flat m s ∧ AllPass (sched.foldl Pipe.step s).stages := by
  refine run_invariant (I := fun s' => flat m s' = flat m s ∧ AllPass s'.stages) ?_ sched s hl ⟨rfl, hp⟩
  intro s' x hx h
  refine ⟨?_, forall_step (fun st q a ha hst => (pass_act st q hst a ha m).2) s' x (fun k a e => lossless_at (e ▸ hx)) h.2⟩
  rw [← h.1]
  cases x with
  | emit => exact emit_flat s' m
  | «at» k a => rw [at_flat, stepAt_pass _ k a m h.2 (lossless_at hx), flat]

/-- the member coalescer at the head of the stage list, running -/
structure HeadMC (m : String) (stages : List (Stage × List PEv)) (R : List MEv) : Prop where
  ex : ∃ mc q rest, stages = (Stage.memberCo mc, q) :: rest ∧ AllPass rest ∧ mc.done = false ∧
    LatestOK mc.c.latest ∧ alookup mc.c.lastEvents m = lastK R

/-- `D` is everything about `m` that lies downstream of the stage (received, held and queued further
down): a member coalescer's `lastEvents[m]` is the kind of the last event of `D`, which is what it
compares a pending event with when it decides to suppress it. -/
def Tracks (m : String) (D : List MEv) : Stage → Prop
  | .memberCo s => s.done = false ∧ LatestOK s.c.latest ∧ alookup s.c.lastEvents m = lastK D
  | st => Pass st

/-- Every stage tracks what lies downstream of it: on the way upstream `D` grows by each stage's segment. -/
def TracksAll (m : String) : List MEv → List (Stage × List PEv) → Prop
  | _, [] => True
  | D, sq :: rest => Tracks m D sq.1 ∧ TracksAll m (D ++ seg m sq) rest

theorem Pass.tracks {st : Stage} (h : Pass st) {m : String} {D : List MEv} : Tracks m D st := by
  cases st <;> simp_all [Tracks, Pass]

theorem Tracks.congr {m : String} {D D' : List MEv} (h : lastK D = lastK D') {st : Stage} (ht : Tracks m D st) :
    Tracks m D' st := by
  cases st <;> simp_all [Tracks]

theorem TracksAll.congr {m : String} (l : List (Stage × List PEv)) : ∀ {D D' : List MEv}, lastK D = lastK D' →
    TracksAll m D l → TracksAll m D' l := by
  induction l with
  | nil => intro _ _ _ _; trivial
  | cons sq rest ih => intro D D' h ht; exact ⟨ht.1.congr h, ih (lastK_congr h _) ht.2⟩

theorem tracks_step (m : String) (D : List MEv) (st : Stage) (h : Tracks m D st) (i : In PEv)
    (hi : isShutdown i = false) :
    lastK (D ++ (about m (st.step i).2 ++ held m (st.step i).1)) = lastK (D ++ (held m st ++ about m (evOf i))) ∧
    Tracks m (D ++ about m (st.step i).2) (st.step i).1 := by
  cases st with
  | memberCo s =>
    obtain ⟨hd, hok, hI⟩ := h
    simp only [Stage.step, held, Tracks]
    have hit := iter memberCoP s i
    generalize CoalesceLoop.step memberCoP s i = r at hit
    cases hit with
    | idle _ hidle =>
      have : evOf i = [] := by cases i <;> simp_all [enabled, evOf]
      simp [this, about_nil, hd, hok, hI]
    | pass e _ hh => simp [evOf, about_passed_member hh, hd, hok, hI]
    | absorb e _ hh =>
      obtain ⟨x, rfl⟩ := memberCoP_absorbs hh
      refine ⟨?_, hd, hok.insert x, by simp [about_nil, memberCoP, MemberCoalesce.coalesce, hI]⟩
      simp only [about_nil, List.nil_append, evOf, memberCoP, alookup_coalesce, about_member]
      -- an event about `m` takes the place of the pending one and is the last of the sequence either way
      split <;> simp [lastK]
    | flush _ _ ht =>
      -- `lastEvents[m]` is now the kind of the last event sent about `m`, if any, and also that of
      -- the pending one, if any; otherwise, either way, that of the last event downstream
      have hsent : alookup (MemberCoalesce.flush s.c).1.lastEvents m =
          lastK (D ++ about m ((MemberCoalesce.flush s.c).2.map .member)) :=
        (flush_lastEvents s.c m).trans (by rw [lastK_append, hI, about_map_member]; rfl)
      have hpend : alookup (MemberCoalesce.flush s.c).1.lastEvents m = lastK (D ++ (alookup s.c.latest m).toList) :=
        (flush_lastEvents_pending s.c hok m).trans (by rw [lastK_append, hI]; cases alookup s.c.latest m <;> rfl)
      simp only [hi, flushNow, memberCoP, flush_latest, alookup_nil, Option.toList_none, List.append_nil,
        evOf_trigger ht, about_nil, LatestOK.nil, true_and]
      exact ⟨hsent.symm.trans hpend, hsent⟩
  | _ =>
    have hp := h
    simp only [Tracks] at hp
    obtain ⟨h1, h2⟩ := pass_step _ hp i hi m
    rw [h1, pass_held hp, pass_held h2]
    exact ⟨by simp, h2.tracks⟩

theorem tracks_act (m : String) (D : List MEv) (st : Stage) (q : List PEv) (h : Tracks m D st) (a : Act)
    (ha : lossless a = true) :
    lastK (D ++ (about m (act st q a).2.2 ++ seg m ((act st q a).1, (act st q a).2.1))) = lastK (D ++ seg m (st, q)) ∧
    Tracks m (D ++ about m (act st q a).2.2) (act st q a).1 := by
  rcases act_lossless st q ha with ⟨i, q', rfl, hi, h'⟩ | h'
  · obtain ⟨h1, h2⟩ := tracks_step m D st h i hi
    rw [h']
    refine ⟨?_, h2⟩
    simp only [seg, about_append, ← List.append_assoc] at h1 ⊢
    exact lastK_congr h1 _
  · rw [h']; exact ⟨rfl, by simpa [about_nil] using h⟩

theorem stepAt_tracks (l : List (Stage × List PEv)) (k : Nat) (a : Act) (m : String) (D : List MEv)
    (ha : lossless a = true) (ht : TracksAll m D l) :
    lastK (D ++ (about m (stepAt l k a).2 ++ flatS m (stepAt l k a).1)) = lastK (D ++ flatS m l) ∧
    TracksAll m (D ++ about m (stepAt l k a).2) (stepAt l k a).1 := by
  fun_induction stepAt l k a generalizing D with
  | case1 => simp [flatS, about_nil, TracksAll]
  | case2 st q rest a =>
    obtain ⟨h1, h2⟩ := tracks_act m D st q ht.1 a ha
    simp only [flatS, TracksAll, ← List.append_assoc] at h1 ⊢
    exact ⟨lastK_congr h1 _, h2, TracksAll.congr rest h1.symm ht.2⟩
  | case3 st q rest k a ih =>
    obtain ⟨h1, h2⟩ := ih (D ++ seg m (st, q)) ha ht.2
    simp only [flatS, TracksAll, seg, about_nil, about_append, List.append_nil, List.nil_append,
      List.append_assoc] at h1 h2 ht ⊢
    exact ⟨h1, ht.1, h2⟩

/-- A handler's send reaches the queue of the most upstream stage: downstream of nothing. -/
theorem pushLast_tracks (l : List (Stage × List PEv)) (e : PEv) (m : String) (D : List MEv)
    (h : TracksAll m D l) : TracksAll m D (pushLast l e) := by
  fun_induction pushLast l e generalizing D with
  | case1 => exact h
  | case2 st q e => exact ⟨h.1, trivial⟩
  | case3 sq rest e _ ih => exact ⟨h.1, ih _ h.2⟩

/-- `E`: the events emitted about `m`. -/
def Inv (m : String) (E : List MEv) (s : Pipe) : Prop :=
  lastK (flat m s) = lastK E ∧ TracksAll m (about m s.recv) s.stages

theorem inv_step (m : String) (E : List MEv) (s : Pipe) (x : Step) (hx : (!x.isLoss) = true) (h : Inv m E s) :
    Inv m E (s.step x) := by
  obtain ⟨hlast, ht⟩ := h
  cases x with
  | emit =>
    refine ⟨by rw [emit_flat]; exact hlast, ?_⟩
    simp only [Pipe.step]
    split
    · exact ht
    · split
      · simp_all [TracksAll]
      · exact pushLast_tracks _ _ m _ ht
  | «at» k a =>
    obtain ⟨h1, h2⟩ := stepAt_tracks s.stages k a m (about m s.recv) (lossless_at hx) ht
    refine ⟨?_, by simpa [Pipe.step, about_append] using h2⟩
    rw [← hlast, at_flat, flat, ← List.append_assoc, ← List.append_assoc _ (flatS m s.stages)]
    exact lastK_congr h1 _

/-- **Without loss the last word is kept**, whatever the stages — any number of member coalescers,
anywhere — as long as each tracks what lies downstream of it. -/
theorem inv_run (m : String) (E : List MEv) (sched : List Step) (s : Pipe)
    (hl : sched.all (fun x => !x.isLoss) = true) (h : Inv m E s) : Inv m E (sched.foldl Pipe.step s) :=
  run_invariant (inv_step m E) sched s hl h

theorem tracksAll_idle (m : String) (l : List (Stage × List PEv)) (hidle : l.all stageIdle = true)
    (h : ∀ sq ∈ l, Tracks m [] sq.1) : TracksAll m [] l := by
  induction l with
  | nil => trivial
  | cons sq rest ih =>
    simp only [List.all_cons, Bool.and_eq_true] at hidle
    refine ⟨h sq List.mem_cons_self, ?_⟩
    rw [List.nil_append, seg_idle hidle.1]
    exact ih hidle.2 fun x hx => h x (List.mem_cons_of_mem _ hx)

theorem inv_init (cfg : Cfg) (emitted : List PEv) (m : String) : Inv m (about m emitted) (initPipe cfg emitted) :=
  ⟨by rw [flat_init], tracksAll_idle m _ (stagesOf_idle cfg)
    (forall_stagesOf cfg (fun _ => ⟨rfl, LatestOK.nil, rfl⟩) rfl trivial trivial)⟩

end SerfProofs.Pipeline
