/-
Lemmas about the msgpack model: big-endian fields, headers, and the round trip
`decodeF fuel (encode v ++ rest) = some (v, rest)` by mutual structural recursion
over the nested value type.
-/
import SerfModel.Model.Msgpack
import SerfProofs.Lemmas.Ite
namespace SerfProofs.Msgpack
open SerfModel.Msgpack SerfProofs

theorem beBytes_length (k n : Nat) : (beBytes k n).length = k := by
  induction k generalizing n with
  | zero => simp [beBytes]
  | succ k ih => simp [beBytes, ih]

/-- core's `UInt8.toNat_ofNat_of_lt'` with the bound written as a numeral, so that `omega` can discharge it -/
theorem toNat_ofNat_lt (n : Nat) (h : n < 256) : (UInt8.ofNat n).toNat = n := UInt8.toNat_ofNat_of_lt' h

theorem beNat_beBytes (k n : Nat) (h : n < 256 ^ k) : beNat (beBytes k n) = n := by
  induction k generalizing n with
  | zero => simp at h; subst h; simp [beBytes, beNat]
  | succ k ih =>
    have h1 : n / 256 < 256 ^ k := by
      rw [Nat.pow_succ] at h
      exact Nat.div_lt_of_lt_mul (by rw [Nat.mul_comm]; exact h)
    have := ih _ h1
    simp only [beNat] at this ⊢
    rw [beBytes, List.foldl_append, this]
    simp [toNat_ofNat_lt _ (Nat.mod_lt n (by decide : 0 < 256))]
    omega

theorem takeN_append (xs rest : Bytes) : takeN xs.length (xs ++ rest) = some (xs, rest) := by
  simp [takeN]

theorem withLen_be (k n : Nat) (rest : Bytes) {f} (h : n < 256 ^ k) :
    withLen k (beBytes k n ++ rest) f = f n rest := by
  have := takeN_append (beBytes k n) rest
  rw [beBytes_length] at this
  simp [withLen, readLen, this, beNat_beBytes k n h]

theorem mkRaw_append (bs rest : Bytes) : mkRaw bs.length (bs ++ rest) = some (.raw bs, rest) := by
  simp [mkRaw, takeN_append]

theorem decodeF_posfix (f : Nat) (b : UInt8) (rest : Bytes) (h : b.toNat < 128) :
    decodeF (f + 1) (b :: rest) = some (.uint b.toNat, rest) := by
  simp [decodeF, h]

theorem decodeF_fixmap (f : Nat) (b : UInt8) (rest : Bytes) (h1 : 128 ≤ b.toNat) (h2 : b.toNat < 144) :
    decodeF (f + 1) (b :: rest) = mkMap (decodeF f) (b.toNat - 128) rest := by
  simp [decodeF, h2, show ¬ b.toNat < 128 by omega]

theorem decodeF_fixarr (f : Nat) (b : UInt8) (rest : Bytes) (h1 : 144 ≤ b.toNat) (h2 : b.toNat < 160) :
    decodeF (f + 1) (b :: rest) = mkArr (decodeF f) (b.toNat - 144) rest := by
  simp [decodeF, h2, show ¬ b.toNat < 128 by omega, show ¬ b.toNat < 144 by omega]

theorem decodeF_fixraw (f : Nat) (b : UInt8) (rest : Bytes) (h1 : 160 ≤ b.toNat) (h2 : b.toNat < 192) :
    decodeF (f + 1) (b :: rest) = mkRaw (b.toNat - 160) rest := by
  simp [decodeF, h2, show ¬ b.toNat < 128 by omega, show ¬ b.toNat < 144 by omega, show ¬ b.toNat < 160 by omega]

theorem decodeF_negfix (f : Nat) (b : UInt8) (rest : Bytes) (h1 : 224 ≤ b.toNat) :
    decodeF (f + 1) (b :: rest) = some (.int ((b.toNat : Int) - 256), rest) := by
  simp [decodeF, h1, show ¬ b.toNat < 128 by omega, show ¬ b.toNat < 144 by omega, show ¬ b.toNat < 160 by omega,
    show ¬ b.toNat < 192 by omega]

theorem dec_uint (f n : Nat) (rest : Bytes) (h : n < 18446744073709551616) :
    decodeF (f + 1) (encUint n ++ rest) = some (.uint n, rest) := by
  unfold encUint
  -- `decodeF` is kept out of sight while the `if`s are taken apart: where `ite_prop` does not apply (at a leaf)
  -- the elaborator would otherwise evaluate the decoder on the leaf before giving up
  generalize hD : decodeF (f + 1) = D
  repeat' refine ite_prop (fun e => D (e ++ rest) = some (.uint n, rest)) (fun _ => ?_) fun _ => ?_
  all_goals subst hD
  · have := toNat_ofNat_lt n (by omega)
    simp [decodeF_posfix f _ rest (by omega : (UInt8.ofNat n).toNat < 128), this]
  · simp [decodeF, withLen_be 1 n rest (by omega)]
  · simp [decodeF, withLen_be 2 n rest (by omega)]
  · simp [decodeF, withLen_be 4 n rest (by omega)]
  · simp [decodeF, withLen_be 8 n rest (by omega)]

theorem dec_int (f : Nat) (i : Int) (rest : Bytes) (h : wf (.int i) = true) :
    decodeF (f + 1) (encInt i ++ rest) = some (.int i, rest) := by
  simp [wf] at h
  unfold encInt
  generalize hD : decodeF (f + 1) = D
  repeat' refine ite_prop (fun e => D (e ++ rest) = some (.int i, rest)) (fun _ => ?_) fun _ => ?_
  all_goals subst hD
  -- the nine leaves, in the order of `encInt`: int16/32/64 above 127, fixint, negative fixint, int8/16/32/64 below −32
  · have h1 : i.toNat < 256 ^ 2 := by omega
    simp [decodeF, withLen_be 2 _ rest h1, signedOf]
    omega
  · have h1 : i.toNat < 256 ^ 4 := by omega
    simp [decodeF, withLen_be 4 _ rest h1, signedOf]
    omega
  · have h1 : i.toNat < 256 ^ 8 := by omega
    simp [decodeF, withLen_be 8 _ rest h1, signedOf]
    omega
  · omega  -- 0 … 127 is excluded by `wf (.int i)`: canonically these are `uint`
  · have := toNat_ofNat_lt (i + 256).toNat (by omega)
    rw [List.singleton_append, decodeF_negfix f _ rest (by omega), this]
    congr 2; congr 1; omega
  · have h1 : (i + 256).toNat < 256 ^ 1 := by omega
    simp [decodeF, withLen_be 1 _ rest h1, signedOf]
    omega
  · have h1 : (i + 65536).toNat < 256 ^ 2 := by omega
    simp [decodeF, withLen_be 2 _ rest h1, signedOf]
    omega
  · have h1 : (i + 4294967296).toNat < 256 ^ 4 := by omega
    simp [decodeF, withLen_be 4 _ rest h1, signedOf]
    omega
  · have h1 : (i + 18446744073709551616).toNat < 256 ^ 8 := by omega
    simp [decodeF, withLen_be 8 _ rest h1, signedOf]
    omega

theorem dec_raw (f : Nat) (bs rest : Bytes) (h : bs.length < 4294967296) :
    decodeF (f + 1) (rawHdr bs.length ++ (bs ++ rest)) = some (.raw bs, rest) := by
  unfold rawHdr
  split
  · have := toNat_ofNat_lt (160 + bs.length) (by omega)
    rw [List.singleton_append, decodeF_fixraw f _ _ (by omega) (by omega), this]
    simp [mkRaw_append]
  split
  · simp [decodeF, withLen_be 2 _ _ (by omega : bs.length < 256 ^ 2), mkRaw_append]
  · simp [decodeF, withLen_be 4 _ _ (by omega : bs.length < 256 ^ 4), mkRaw_append]

theorem dec_arrHdr (f l : Nat) (tail : Bytes) (h : l < 4294967296) :
    decodeF (f + 1) (arrHdr l ++ tail) = mkArr (decodeF f) l tail := by
  unfold arrHdr
  split
  · have := toNat_ofNat_lt (144 + l) (by omega)
    rw [List.singleton_append, decodeF_fixarr f _ _ (by omega) (by omega), this]
    simp
  split
  · simp [decodeF, withLen_be 2 _ _ (by omega : l < 256 ^ 2)]
  · simp [decodeF, withLen_be 4 _ _ (by omega : l < 256 ^ 4)]

theorem dec_mapHdr (f l : Nat) (tail : Bytes) (h : l < 4294967296) :
    decodeF (f + 1) (mapHdr l ++ tail) = mkMap (decodeF f) l tail := by
  unfold mapHdr
  split
  · have := toNat_ofNat_lt (128 + l) (by omega)
    rw [List.singleton_append, decodeF_fixmap f _ _ (by omega) (by omega), this]
    simp
  split
  · simp [decodeF, withLen_be 2 _ _ (by omega : l < 256 ^ 2)]
  · simp [decodeF, withLen_be 4 _ _ (by omega : l < 256 ^ 4)]

theorem depth_pos (v : MP) : 0 < depth v := by
  cases v <;> simp [depth] <;> omega

/- Fuel: `decodeF (f + 1)` decodes the elements of a container with `decodeF f`, and the `depth` of a container is one more
than the largest `depth` among its elements.  So `rt` spends one unit at `arr`/`map` and hands `depthList xs ≤ f` to `rtList`,
which hands that bound on to every element.  `simp only []` after a `rw` reduces the `match` whose scrutinee the `rw` has
turned into `some _`. -/
mutual
theorem rt : (v : MP) → wf v = true → ∀ (f : Nat) (rest : Bytes), depth v ≤ f →
    decodeF f (encode v ++ rest) = some (v, rest)
  | v, _, 0, _, hd => absurd (depth_pos v) (by omega)
  | .nil, _, f + 1, rest, _ => by simp [encode, decodeF]
  | .bool b, _, f + 1, rest, _ => by cases b <;> simp [encode, decodeF]
  | .uint n, h, f + 1, rest, _ => by
    simp [wf] at h
    simp [encode, dec_uint f n rest h]
  | .int i, h, f + 1, rest, _ => by simp [encode, dec_int f i rest h]
  | .f32 n, h, f + 1, rest, _ => by
    simp [wf] at h
    simp [encode, decodeF, withLen_be 4 n rest (by omega)]
  | .f64 n, h, f + 1, rest, _ => by
    simp [wf] at h
    simp [encode, decodeF, withLen_be 8 n rest (by omega)]
  | .raw bs, h, f + 1, rest, _ => by
    simp [wf] at h
    simp only [encode, List.append_assoc]
    exact dec_raw f bs rest h
  | .arr xs, h, f + 1, rest, hd => by
    simp [wf] at h
    simp only [encode, List.append_assoc]
    rw [dec_arrHdr f _ _ h.1, mkArr, rtList xs h.2 f rest (by simp [depth] at hd; omega)]
  | .map kvs, h, f + 1, rest, hd => by
    simp [wf] at h
    simp only [encode, List.append_assoc]
    rw [dec_mapHdr f _ _ h.1, mkMap, rtPairs kvs h.2 f rest (by simp [depth] at hd; omega)]
theorem rtList : (xs : List MP) → wfList xs = true → ∀ (f : Nat) (rest : Bytes), depthList xs ≤ f →
    decList (decodeF f) xs.length (encodeList xs ++ rest) = some (xs, rest)
  | [], _, f, rest, _ => by simp [decList, encodeList]
  | x :: xs, h, f, rest, hd => by
    simp [wfList] at h
    simp [depthList] at hd
    simp only [encodeList, List.append_assoc, List.length_cons, decList]
    rw [rt x h.1 f _ (by omega)]
    simp only []
    rw [rtList xs h.2 f rest (by omega)]
theorem rtPairs : (kvs : List (MP × MP)) → wfPairs kvs = true → ∀ (f : Nat) (rest : Bytes), depthPairs kvs ≤ f →
    decPairs (decodeF f) kvs.length (encodePairs kvs ++ rest) = some (kvs, rest)
  | [], _, f, rest, _ => by simp [decPairs, encodePairs]
  | (k, v) :: kvs, h, f, rest, hd => by
    simp [wfPairs] at h
    simp [depthPairs] at hd
    simp only [encodePairs, List.append_assoc, List.length_cons, decPairs]
    rw [rt k h.1 f _ (by omega)]
    simp only []
    rw [rt v h.2.1 f _ (by omega)]
    simp only []
    rw [rtPairs kvs h.2.2 f rest (by omega)]
end

theorem encUint_ne_nil (n : Nat) : encUint n ≠ [] := by
  unfold encUint
  repeat' refine ite_prop (· ≠ []) (fun _ => ?_) fun _ => ?_
  all_goals exact List.cons_ne_nil _ _
theorem encInt_ne_nil (n : Int) : encInt n ≠ [] := by
  unfold encInt
  repeat' refine ite_prop (· ≠ []) (fun _ => ?_) fun _ => ?_
  all_goals exact List.cons_ne_nil _ _
theorem rawHdr_ne_nil (n : Nat) : rawHdr n ≠ [] := by
  unfold rawHdr
  repeat' refine ite_prop (· ≠ []) (fun _ => ?_) fun _ => ?_
  all_goals exact List.cons_ne_nil _ _
theorem arrHdr_ne_nil (n : Nat) : arrHdr n ≠ [] := by
  unfold arrHdr
  repeat' refine ite_prop (· ≠ []) (fun _ => ?_) fun _ => ?_
  all_goals exact List.cons_ne_nil _ _
theorem mapHdr_ne_nil (n : Nat) : mapHdr n ≠ [] := by
  unfold mapHdr
  repeat' refine ite_prop (· ≠ []) (fun _ => ?_) fun _ => ?_
  all_goals exact List.cons_ne_nil _ _

mutual
theorem depth_le_length : (v : MP) → depth v ≤ (encode v).length
  | .nil => by simp [depth, encode]
  | .bool b => by simp [depth, encode]
  | .uint n => List.length_pos_iff.2 (encUint_ne_nil n)
  | .int n => List.length_pos_iff.2 (encInt_ne_nil n)
  | .f32 n => by simp [depth, encode]
  | .f64 n => by simp [depth, encode]
  | .raw bs => by
    have := List.length_pos_iff.2 (rawHdr_ne_nil bs.length)
    simp [depth, encode]; omega
  | .arr xs => by
    have := depthList_le_length xs
    have := List.length_pos_iff.2 (arrHdr_ne_nil xs.length)
    simp [depth, encode]; omega
  | .map xs => by
    have := depthPairs_le_length xs
    have := List.length_pos_iff.2 (mapHdr_ne_nil xs.length)
    simp [depth, encode]; omega
theorem depthList_le_length : (xs : List MP) → depthList xs ≤ (encodeList xs).length
  | [] => by simp [depthList]
  | x :: xs => by
    have := depth_le_length x
    have := depthList_le_length xs
    simp [depthList, encodeList]; omega
theorem depthPairs_le_length : (xs : List (MP × MP)) → depthPairs xs ≤ (encodePairs xs).length
  | [] => by simp [depthPairs]
  | (k, v) :: xs => by
    have := depth_le_length k
    have := depth_le_length v
    have := depthPairs_le_length xs
    simp [depthPairs, encodePairs]; omega
end

theorem decode_encode (v : MP) (h : wf v = true) (rest : Bytes) : decode (encode v ++ rest) = some (v, rest) := by
  unfold decode
  apply rt v h
  have := depth_le_length v
  simp; omega

end SerfProofs.Msgpack
