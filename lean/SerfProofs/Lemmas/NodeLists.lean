/-
List facts about the Go slice idioms in the node model (`SerfModel.Node`):
`swapRemove` (swap-with-last delete), `removeOld` (`removeOldMember`), `reapLoop` (the loop of `reap`).
Core Lean only.
-/
import SerfModel.Model.Node
namespace SerfProofs.NodeLists
open SerfModel SerfModel.Node

theorem eq_dropLast_append_of_getLast? {α : Type} (xs : List α) (z : α) (h : xs.getLast? = some z) :
    xs = xs.dropLast ++ [z] := by
  rcases List.getLast?_eq_some_iff.mp h with ⟨ys, rfl⟩
  simp

theorem last_cons_dropLast_perm {α : Type} (xs : List α) (z : α) (h : xs.getLast? = some z) :
    (z :: xs.dropLast).Perm xs :=
  (List.perm_append_singleton z _).symm.trans (.of_eq (eq_dropLast_append_of_getLast? xs z h).symm)

theorem swapRemove_perm (l : List Name) (i : Nat) (m : Name) (h : l[i]? = some m) :
    l.Perm (m :: swapRemove l i) := by
  induction l generalizing i with
  | nil => simp at h
  | cons x xs ih =>
    cases i with
    | zero =>
      cases (Option.some.inj h : x = m)
      simp only [swapRemove]
      split
      · next hn => rw [List.getLast?_eq_none_iff.mp hn]
      · next z hz => exact (last_cons_dropLast_perm xs z hz).symm.cons _
    | succ j => exact ((ih j h).cons x).trans (List.Perm.swap m x _)

theorem swapRemove_take (l : List Name) (i : Nat) : (swapRemove l i).take i = l.take i := by
  induction l generalizing i with
  | nil => rfl
  | cons x xs ih =>
    cases i with
    | zero => rfl
    | succ j =>
      simp only [swapRemove, List.take_succ_cons]
      rw [ih j]

theorem removeOld_perm (l : List Name) (x : Name) : (removeOld l x).Perm (l.erase x) := by
  induction l with
  | nil => simp [removeOld]
  | cons y ys ih =>
    by_cases hy : y = x
    · subst hy
      simp only [removeOld, if_true, List.erase_cons_head]
      split
      · next hn => rw [List.getLast?_eq_none_iff.mp hn]
      · next z hz => exact last_cons_dropLast_perm ys z hz
    · simp only [removeOld, if_neg hy]
      rw [List.erase_cons_tail (by simpa using hy)]
      exact ih.cons y

theorem nodup_removeOld {l : List Name} {x : Name} (h : l.Nodup) : (removeOld l x).Nodup :=
  (removeOld_perm l x).nodup_iff.mpr (h.erase x)

theorem mem_removeOld {l : List Name} {x y : Name} (h : l.Nodup) :
    y ∈ removeOld l x ↔ y ∈ l ∧ y ≠ x := by
  rw [(removeOld_perm l x).mem_iff, h.mem_erase_iff]
  exact And.comm

theorem removeOld_of_not_mem (l : List Name) (x : Name) (h : x ∉ l) : removeOld l x = l := by
  induction l with
  | nil => simp [removeOld]
  | cons y ys ih =>
    have hy : ¬ y = x := fun e => h (by simp [e])
    have hx : x ∉ ys := fun e => h (by simp [e])
    simp only [removeOld, if_neg hy]
    rw [ih hx]

theorem mem_of_mem_removeOld (l : List Name) (x y : Name) (h : y ∈ removeOld l x) : y ∈ l :=
  List.mem_of_mem_erase ((removeOld_perm l x).mem_iff.mp h)

theorem removeOld_length_of_mem (l : List Name) (x : Name) (h : x ∈ l) :
    (removeOld l x).length = l.length - 1 := by
  rw [(removeOld_perm l x).length_eq, List.length_erase_of_mem h]

/-- Both exits of the scan (fuel spent, index past the end) return `(old, acc)` unchanged: with the index
past the end and everything before it kept, that pair is what `reapLoop_inv` claims. -/
theorem reapLoop_done (exp : Name → Bool) (old : List Name) (i : Nat) (acc : List Name)
    (hi : old.length ≤ i) (hk : ∀ x ∈ old.take i, exp x = false) :
    old.Perm (old.filter fun x => !exp x) ∧ acc.Perm (acc ++ old.filter exp) := by
  rw [List.take_of_length_le hi] at hk
  rw [List.filter_eq_self.mpr fun a ha => by simp [hk a ha], List.filter_eq_nil_iff.mpr fun a ha => by simp [hk a ha],
    List.append_nil]
  exact ⟨.refl _, .refl _⟩

/-- Invariant of the scan: the entries before position `i` are kept ones, and a swap-delete at `i`
leaves them where they are. -/
theorem reapLoop_inv (exp : Name → Bool) (fuel : Nat) (old : List Name) (i : Nat) (acc : List Name)
    (hf : old.length - i ≤ fuel) (hk : ∀ x ∈ old.take i, exp x = false) :
    (reapLoop exp fuel old i acc).1.Perm (old.filter (fun x => !exp x)) ∧
    (reapLoop exp fuel old i acc).2.Perm (acc ++ old.filter exp) := by
  induction fuel generalizing old i acc with
  | zero => exact reapLoop_done exp old i acc (by omega) hk
  | succ fuel ih =>
    simp only [reapLoop]
    split
    · next hn => exact reapLoop_done exp old i acc (List.getElem?_eq_none_iff.mp hn) hk
    · next m hm =>
      by_cases he : exp m = true
      · rw [if_pos he]
        have hp := swapRemove_perm old i m hm
        have hlen : old.length = (swapRemove old i).length + 1 := hp.length_eq
        obtain ⟨r1, r2⟩ := ih (swapRemove old i) i (acc ++ [m]) (by omega)
          (by rw [swapRemove_take old i]; exact hk)
        have f1 := hp.filter fun x => !exp x
        have f2 := hp.filter exp
        rw [List.filter_cons_of_neg (by simp [he])] at f1
        rw [List.filter_cons_of_pos he] at f2
        refine ⟨r1.trans f1.symm, r2.trans ?_⟩
        rw [List.append_assoc]
        exact f2.symm.append_left acc
      · rw [if_neg he]
        refine ih old (i + 1) acc (by omega) fun x hx => ?_
        rw [List.take_add_one, hm] at hx
        rcases List.mem_append.mp hx with hx | hx
        · exact hk x hx
        · rw [List.mem_singleton.mp hx]; simpa using he

theorem reapLoop_spec (exp : Name → Bool) (l : List Name) :
    (reapLoop exp l.length l 0 []).1.Perm (l.filter (fun x => !exp x)) ∧
    (reapLoop exp l.length l 0 []).2.Perm (l.filter exp) := by
  have := reapLoop_inv exp l.length l 0 [] (by omega) (by simp)
  simpa using this

theorem reapLoop_length (exp : Name → Bool) (l : List Name) :
    (reapLoop exp l.length l 0 []).1.length + (reapLoop exp l.length l 0 []).2.length = l.length := by
  rw [(reapLoop_spec exp l).1.length_eq, (reapLoop_spec exp l).2.length_eq]
  induction l with
  | nil => simp
  | cons y ys ih =>
    cases hy : exp y <;> simp [hy] <;> omega

end SerfProofs.NodeLists
