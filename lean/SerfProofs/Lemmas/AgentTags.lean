/-
Lemmas for the agent tag model (C30): the `handleTags` loops as filter + copy on
association lists, exactness of the closed-form encoded size, `Agent.SetTags` in one equation.
-/
import SerfModel.Model.AgentTags
import SerfProofs.Lemmas.Assoc

namespace SerfProofs.AgentTags
open SerfModel SerfModel.AgentTags

theorem delTag_eq (del : List Bytes) (key : Bytes) : delTag del key = del.contains key := by
  have fold : ∀ b, del.foldl (fun acc d => acc || d == key) b = (b || del.contains key) := by
    induction del with
    | nil => simp
    | cons d rest ih =>
      intro b
      rw [List.foldl_cons, ih, List.contains_cons, BEq.comm (a := key), Bool.or_assoc]
  exact (fold false).trans (Bool.false_or _)

theorem keep_eq (old : Tags) (del : List Bytes) :
    keep old del = mapsCopy [] (old.filter fun p => !del.contains p.1) := by
  unfold keep mapsCopy
  rw [List.foldl_filter]
  congr
  funext acc p
  rw [delTag_eq]
  cases del.contains p.1 <;> rfl

/-- erasing a list of keys -/
def eraseKeys (m : Tags) (del : List Bytes) : Tags := del.foldl aerase m
/-- inserting a list of pairs, later ones winning -/
def insertAll (m set : Tags) : Tags := set.foldl (fun acc p => ainsert acc p.1 p.2) m

theorem eraseKeys_eq (m : Tags) (del : List Bytes) :
    eraseKeys m del = m.filter fun p => !del.contains p.1 := by
  unfold eraseKeys
  induction del generalizing m with
  | nil => exact (List.filter_eq_self.mpr fun _ _ => rfl).symm
  | cons d rest ih =>
    rw [List.foldl_cons, ih, aerase, List.filter_filter]
    congr
    funext p
    rw [List.contains_cons, Bool.not_or, Bool.and_comm]

theorem rawHeader_length (l : Nat) : (rawHeader l).length = rawHeaderLen l := by
  unfold rawHeader rawHeaderLen be16 be32
  split
  · rfl
  · split <;> rfl

theorem mapHeader_length (n : Nat) : (mapHeader n).length = mapHeaderLen n := by
  unfold mapHeader mapHeaderLen be16 be32
  split
  · rfl
  · split <;> rfl

theorem encEntries_length (t : Tags) : (encEntries t).length = entriesSize t := by
  induction t with
  | nil => rfl
  | cons p rest ih =>
    simp only [encEntries, entriesSize, encStr, List.length_append, rawHeader_length, ih]

theorem encodeTags_length (t : Tags) : (encodeTags t).length = encodedSize t := by
  simp only [encodeTags, encodedSize, List.length_cons, List.length_append, mapHeader_length, encEntries_length]
  omega

/-- All three orders in one equation: Serf takes the new tags exactly when they fit, and the file
is left alone only by a rejected edit under the order "Serf first, file on success". -/
theorem setTags_eq (sh : SetTagsShape) (s : St) (new : Tags) :
    setTags sh s new =
      ({ effective := if fits new then new else s.effective,
         file := if sh.SerfFirst && !fits new then s.file else new }, fits new) := by
  rcases sh with ⟨a, b⟩
  unfold setTags
  cases a <;> cases b <;> cases fits new <;> rfl

end SerfProofs.AgentTags
