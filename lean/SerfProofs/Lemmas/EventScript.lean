/-
Lemmas for the event-handler model (C27): splitting at a separator byte, suffixes (`takeLast`).
-/
import SerfModel.Model.AgentEventScript
namespace SerfProofs.EventScript
open SerfModel.EventScript

theorem length_splitOn (sep : UInt8) (l : Bytes) : (splitOn sep l).length = l.count sep + 1 := by
  induction l with
  | nil => simp [splitOn]
  | cons c rest ih =>
    unfold splitOn
    by_cases h : c = sep
    · simp [h, ih]
    · cases hs : splitOn sep rest with
      | nil => simp [hs] at ih
      | cons x xs => simp [h, ← ih, hs]

theorem splitOn_of_not_mem {sep : UInt8} {l : Bytes} (h : sep ∉ l) : splitOn sep l = [l] := by
  induction l with
  | nil => rfl
  | cons c rest ih =>
    simp only [List.mem_cons, not_or] at h
    simp [splitOn, Ne.symm h.1, ih h.2]

theorem splitOn_append_sep {sep : UInt8} {a rest : Bytes} (h : sep ∉ a) :
    splitOn sep (a ++ sep :: rest) = a :: splitOn sep rest := by
  induction a with
  | nil => simp [splitOn]
  | cons c tl ih =>
    simp only [List.mem_cons, not_or] at h
    simp [splitOn, Ne.symm h.1, ih h.2]

theorem takeLast_length (n : Nat) (l : Bytes) : (takeLast n l).length = min l.length n := by
  unfold takeLast
  simp only [List.length_drop]
  omega

theorem takeLast_suffix (n : Nat) (l : Bytes) : takeLast n l <:+ l := List.drop_suffix _ _

theorem takeLast_of_le (n : Nat) (l : Bytes) (h : l.length ≤ n) : takeLast n l = l := by
  unfold takeLast
  rw [Nat.sub_eq_zero_of_le h, List.drop_zero]

/-- what was dropped earlier stays dropped: the ring may forget it -/
theorem takeLast_append_takeLast (n : Nat) (a c : Bytes) :
    takeLast n (takeLast n a ++ c) = takeLast n (a ++ c) := by
  unfold takeLast
  rw [← List.drop_append_of_le_length (Nat.sub_le _ _), List.drop_drop]
  congr 1
  simp only [List.length_append, List.length_drop]
  omega

end SerfProofs.EventScript
