/-
One complete simultaneous state-sync round on the cluster model (`syncRound`: every running node, `R`,
merges the LocalState of every other one, all LocalStates taken before the round), started from an
ARBITRARY cluster whose nodes satisfy the bookkeeping invariant (`AllBook`; every reachable state does:
`allBook_crun`).  This is the cluster-level agreement clause of C02.

A merge acts on the record of `x` as a join intent at the peer's status time or, if the peer lists `x` as
left, as a leave claim at that time + 1 (`merge_rec`).  Join intents compose: two are one, at the larger
time (`joinUpd_joinUpd`).  So when nobody lists `x` as left the whole round is, at every running node, ONE
join intent at `maxLtime`, the newest status time known among the running nodes (`sync_rec_up`), and the
agreement theorems for a member that is up and for a failed one are read off this.  With a leave around the
fold has no closed form; `agreement_left` carries an invariant (`DownRec`) up to the peer that holds the leave.
The concrete reachable clusters at the end, checked by evaluation, show every theorem non-vacuous and `NoTie`,
the split of the down case and the no-wrap bound needed; for `UpView` / `DownView`, the assumed memberlist
views, there is no such witness.
-/
import SerfProofs.Lemmas.Cluster
import SerfProofs.Lemmas.NodeSelf
namespace SerfProofs.ClusterSync
open SerfModel SerfModel.Node SerfModel.Cluster SerfProofs.NodeSteps SerfProofs.NodeBook SerfProofs.NodeSelf
open SerfProofs.Cluster (wx)

/-- `MergeRemoteState`'s first loop.  The local node on the left list is left out: while running it
refutes the claim instead of applying it. -/
theorem mergeLefts_rec (st : List (Name × Nat)) (w : Nat) (x : Name) (lf : List Name) :
    ∀ n : Node, x ≠ n.name ∨ x ∉ lf →
      alookup (mergeLefts n st w lf).1.members x =
        if x ∈ lf then (alookup n.members x).map (leaveUpd (mergeClaim st x)) else alookup n.members x := by
  induction lf with
  | nil => intro n _; rfl
  | cons y ys ih =>
    intro n hx
    show alookup (mergeLefts (handleLeaveIntent n y (mergeClaim st y) false w).1 st w ys).1.members x = _
    rw [ih _ (by rw [hli_name]; exact hx.imp_right (fun h h' => h (List.mem_cons_of_mem _ h')))]
    by_cases hy : y = x
    · subst hy
      have hne : y ≠ n.name := hx.resolve_right (fun h => h (List.mem_cons_self ..))
      rw [hli_rec_other n y _ w (fun h => hne h.1), if_pos (List.mem_cons_self ..), Option.map_map]
      by_cases hys : y ∈ ys
      · simp only [if_pos hys, Function.comp_def, leaveUpd_idem]
      · rw [if_neg hys]
    · rw [hli_lookup_ne _ _ _ _ _ _ (Ne.symm hy)]
      simp only [List.mem_cons, Ne.symm hy, false_or]

/-- `MergeRemoteState`'s second loop.  `Nodup`: Go's `StatusLTimes` is a map. -/
theorem mergeJoins_rec (lf : List Name) (w : Nat) (x : Name) (hx : x ∉ lf) (st : List (Name × Nat)) :
    (akeys st).Nodup → ∀ n : Node,
      alookup (mergeJoins n lf w st).members x = (alookup n.members x).map (joinUpd ((alookup st x).getD 0)) := by
  induction st with
  | nil => intro _ n; show _ = Option.map (joinUpd 0) _; rw [joinUpd_zero, Option.map_id]; rfl
  | cons q rest ih =>
    obtain ⟨y, t⟩ := q
    intro hnd n
    have hnd' := List.nodup_cons.mp hnd
    rw [alookup_cons]
    unfold mergeJoins
    by_cases hy : y = x
    · subst hy
      rw [if_neg hx, ih hnd'.2, hji_rec, (alookup_eq_none_iff _ _).mpr hnd'.1, if_pos (beq_iff_eq.mpr rfl),
        Option.map_map]
      show Option.map (joinUpd 0 ∘ joinUpd t) _ = _
      rw [joinUpd_zero]; rfl
    · rw [if_neg fun h => hy (beq_iff_eq.mp h)]
      by_cases hyl : y ∈ lf
      · rw [if_pos hyl]; exact ih hnd'.2 n
      · rw [if_neg hyl, ih hnd'.2, hji_lookup_ne _ _ _ _ _ (Ne.symm hy)]

theorem merge_rec (n : Node) (lt : Nat) (st : List (Name × Nat)) (lf : List Name) (w : Nat) (x : Name)
    (hst : (akeys st).Nodup) (hx : x ≠ n.name ∨ x ∉ lf) :
    alookup (merge n lt st lf w).1.members x = (alookup n.members x).map
      (if x ∈ lf then leaveUpd (mergeClaim st x) else joinUpd ((alookup st x).getD 0)) := by
  obtain ⟨c, hc⟩ := mergeStart_eq n lt
  have hlefts := mergeLefts_rec st w x lf { n with clock := c } hx
  rw [merge_eq, hc]
  by_cases hl : x ∈ lf
  · rw [mergeJoins_lookup_of_mem_left _ _ _ _ hl, hlefts, if_pos hl, if_pos hl]
  · rw [mergeJoins_rec _ _ _ hl _ hst, hlefts, if_neg hl, if_neg hl]

def mergeOf (w : Nat) (p : Node) : Op := Op.merge (localState p).1 (localState p).2.1 (localState p).2.2 w

def peerTime (x : Name) (p : Node) : Nat := (ltimeOf p x).getD 0

/-- what merging the LocalState of peer `p` does to a record about `x` -/
def peerUpd (x : Name) (p : Node) : Member → Member :=
  if x ∈ p.left then leaveUpd ((peerTime x p + 1) % two64) else joinUpd (peerTime x p)

theorem merge_peer_rec (n p : Node) (x : Name) (w : Nat) (hp : (akeys p.members).Nodup)
    (h : x ≠ n.name ∨ x ∉ p.left) :
    alookup (step n (mergeOf w p)).1.members x = (alookup n.members x).map (peerUpd x p) := by
  have hk : akeys (p.members.map (fun p => (p.1, p.2.ltime))) = akeys p.members := by
    simp [akeys, List.map_map]
  show alookup (merge n p.clock (p.members.map (fun p => (p.1, p.2.ltime))) p.left w).1.members x = _
  rw [merge_rec n _ _ _ w x (by rw [hk]; exact hp) h]
  unfold peerUpd peerTime mergeClaim ltimeOf
  rw [alookup_map_snd]

theorem run_merges_rec (x : Name) (w : Nat) (ps : List Node) : ∀ n : Node,
    (∀ p ∈ ps, (akeys p.members).Nodup ∧ (x ≠ n.name ∨ x ∉ p.left)) →
    alookup (run n (ps.map (mergeOf w))).members x =
      (alookup n.members x).map (fun m => ps.foldl (fun m p => peerUpd x p m) m) := by
  induction ps with
  | nil => intro n _; exact Option.map_id'.symm
  | cons p ps ih =>
    intro n h
    obtain ⟨hk, hx⟩ := h p (List.mem_cons_self ..)
    show alookup (run (step n (mergeOf w p)).1 (ps.map (mergeOf w))).members x = _
    rw [ih _ (fun q hq => by rw [step_name]; exact h q (List.mem_cons_of_mem _ hq)),
      merge_peer_rec n p x w hk hx, Option.map_map]
    rfl

theorem foldl_peerUpd_join (x : Name) (m : Member) : ∀ ps : List Node, (∀ p ∈ ps, x ∉ p.left) → ∀ a : Nat,
    ps.foldl (fun m p => peerUpd x p m) (joinUpd a m) = joinUpd ((ps.map (peerTime x)).foldl max a) m := by
  intro ps
  induction ps with
  | nil => intro _ a; rfl
  | cons p ps ih =>
    intro h a
    have hp : peerUpd x p = joinUpd (peerTime x p) := if_neg (h p (List.mem_cons_self ..))
    simp only [List.foldl_cons, List.map_cons, hp, joinUpd_joinUpd]
    exact ih (fun q hq => h q (List.mem_cons_of_mem _ hq)) _

theorem peerUpd_left (x : Name) (p : Node) (m : Member) (h : m.status = .left) : (peerUpd x p m).status = .left := by
  unfold peerUpd
  split
  · exact leaveUpd_status_left _ m h
  · rw [joinUpd_status _ m (by rw [h]; simp)]; exact h

theorem foldl_peerUpd_left (x : Name) (ps : List Node) (m : Member) (h : m.status = .left) :
    (ps.foldl (fun m p => peerUpd x p m) m).status = .left :=
  List.foldlRecOn (motive := fun m : Member => m.status = .left) ps _ h fun a ha p _ => peerUpd_left x p a ha

/-- the status time node `i` holds for `x` (0 if there is no such node or it does not list `x`) -/
def ltimeAt (c : Cluster) (i : Nat) (x : Name) : Nat := (c.nodes[i]?.bind (fun n => ltimeOf n x)).getD 0

def maxLtime (c : Cluster) (R : List Nat) (x : Name) : Nat := (R.map (ltimeAt c · x)).foldl max 0

/-- what a truthful memberlist that reports `x` UP allows node `n` to hold about `x` -/
def UpAt (n : Node) (x : Name) : Prop :=
  x ∉ n.left ∧ (statusOf n x = none ∨ statusOf n x = some .alive ∨ statusOf n x = some .leaving)

instance (n : Node) (x : Name) : Decidable (UpAt n x) := by unfold UpAt; infer_instance

/-- memberlist truthful, x up: every running node that lists x lists it alive or leaving, and nobody
has x on its left list.  (Nothing is asked of the node named x itself beyond this: while it runs it
lists itself alive, mid-leave it lists itself leaving.)  A hypothesis on Serf's own statuses, what a
truthful up report leaves behind; the cluster model's oracle `ml` / `mlUp` occurs in no theorem. -/
def UpView (c : Cluster) (R : List Nat) (x : Name) : Prop := ∀ i ∈ R, ∀ n, c.nodes[i]? = some n → UpAt n x

/-- THE excluded class: some running node lists the running x as `leaving` with a status time that no
join time known anywhere in the cluster exceeds -/
def NoTie (c : Cluster) (R : List Nat) (x : Name) : Prop :=
  ∀ i ∈ R, ∀ n, c.nodes[i]? = some n → statusOf n x = some .leaving → ltimeAt c i x < maxLtime c R x

/-- what a truthful memberlist that reports `x` DOWN allows node `n` to hold about `x` -/
def DownAt (n : Node) (x : Name) : Prop :=
  (statusOf n x = none ∨ statusOf n x = some .failed ∨ statusOf n x = some .left) ∧ n.name ≠ x

instance (n : Node) (x : Name) : Decidable (DownAt n x) := by unfold DownAt; infer_instance

/-- memberlist truthful, x down: every running node that lists x lists it failed or left, and no
running node is named x -/
def DownView (c : Cluster) (R : List Nat) (x : Name) : Prop := ∀ i ∈ R, ∀ n, c.nodes[i]? = some n → DownAt n x

/-- the class "down after a leave newer than its latest join": some running node lists x as left, at the newest
status time known among `R` -/
def SomeLeftAtMax (c : Cluster) (R : List Nat) (x : Name) : Prop :=
  ∃ b ∈ R, ∃ n, c.nodes[b]? = some n ∧ (statusOf n x = some .left ∧ ltimeAt c b x = maxLtime c R x)

/-- the class "down otherwise": no running node lists x as left (the two classes do not exhaust `DownView`:
`stale_left_counterexample`) -/
def NobodyLeft (c : Cluster) (R : List Nat) (x : Name) : Prop :=
  ∀ i ∈ R, ∀ n, c.nodes[i]? = some n → statusOf n x ≠ some .left

/-- per-node well-formedness that holds in every reachable state (C15): `BookInv` for every node -/
def AllBook (c : Cluster) : Prop := ∀ n ∈ c.nodes, BookInv n

instance (c : Cluster) (R : List Nat) (x : Name) : Decidable (UpView c R x) := by unfold UpView; infer_instance
instance (c : Cluster) (R : List Nat) (x : Name) : Decidable (NoTie c R x) := by unfold NoTie; infer_instance
instance (c : Cluster) (R : List Nat) (x : Name) : Decidable (DownView c R x) := by unfold DownView; infer_instance
instance (c : Cluster) (R : List Nat) (x : Name) : Decidable (SomeLeftAtMax c R x) := by unfold SomeLeftAtMax; infer_instance
instance (c : Cluster) (R : List Nat) (x : Name) : Decidable (NobodyLeft c R x) := by unfold NobodyLeft; infer_instance

theorem UpView.nobodyLeft {c : Cluster} {R : List Nat} {x : Name} (h : UpView c R x) : NobodyLeft c R x := by
  intro i hi n hn e
  rcases (h i hi n hn).2 with h1 | h1 | h1 <;> rw [e] at h1 <;> cases h1

theorem AllBook.get {c : Cluster} (hb : AllBook c) {i : Nat} {n : Node} (h : c.nodes[i]? = some n) : BookInv n :=
  hb n (List.mem_of_getElem? h)

theorem ltimeAt_of_lookup {c : Cluster} {i : Nat} {n : Node} {x : Name} {m : Member}
    (hn : c.nodes[i]? = some n) (hm : alookup n.members x = some m) : ltimeAt c i x = m.ltime := by
  simp [ltimeAt, hn, ltimeOf, hm]

theorem foldl_max_le (ts : List Nat) (a b : Nat) : ts.foldl max a ≤ b ↔ a ≤ b ∧ ∀ t ∈ ts, t ≤ b :=
  (List.max?_le_iff (xs := a :: ts) rfl).trans List.forall_mem_cons

theorem ltimeAt_le_max (c : Cluster) (R : List Nat) (x : Name) {j : Nat} (hj : j ∈ R) :
    ltimeAt c j x ≤ maxLtime c R x :=
  ((foldl_max_le _ 0 _).mp (Nat.le_refl _)).2 _ (List.mem_map.mpr ⟨j, hj, rfl⟩)

theorem syncRound_node (c : Cluster) (R : List Nat) (w i : Nat) :
    (syncRound c R w).nodes[i]? = (c.nodes[i]?).map (fun n => if i ∈ R then run n (syncOps c R i w) else n) := by
  simp only [syncRound, List.getElem?_mapIdx]

theorem syncRound_node_inv {c : Cluster} {R : List Nat} {w i : Nat} {n' : Node}
    (h : (syncRound c R w).nodes[i]? = some n') (hi : i ∈ R) :
    ∃ n, c.nodes[i]? = some n ∧ n' = run n (syncOps c R i w) := by
  rw [syncRound_node] at h
  obtain ⟨n, hn, e⟩ := Option.map_eq_some_iff.mp h
  exact ⟨n, hn, by rw [← e, if_pos hi]⟩

/-- the nodes whose LocalState node `i` merges in a round -/
def peers (c : Cluster) (R : List Nat) (i : Nat) : List Node := (R.filter (· ≠ i)).filterMap (c.nodes[·]?)

theorem syncOps_eq (c : Cluster) (R : List Nat) (i w : Nat) : syncOps c R i w = (peers c R i).map (mergeOf w) :=
  List.map_filterMap.symm

theorem mem_peers {c : Cluster} {R : List Nat} {i : Nat} {p : Node} :
    p ∈ peers c R i ↔ ∃ j ∈ R, j ≠ i ∧ c.nodes[j]? = some p := by
  simp only [peers, List.mem_filterMap, List.mem_filter, decide_eq_true_eq, and_assoc]

theorem ltimeAt_eq {c : Cluster} {j : Nat} {p : Node} (h : c.nodes[j]? = some p) (x : Name) :
    ltimeAt c j x = peerTime x p := by
  simp [ltimeAt, peerTime, h]

theorem peerTime_le_max {c : Cluster} {R : List Nat} {i : Nat} {p : Node} (hp : p ∈ peers c R i) (x : Name) :
    peerTime x p ≤ maxLtime c R x := by
  obtain ⟨j, hj, _, hcj⟩ := mem_peers.mp hp
  rw [← ltimeAt_eq hcj]
  exact ltimeAt_le_max c R x hj

theorem sync_rec (c : Cluster) (R : List Nat) (x : Name) (w : Nat) (hb : AllBook c) (i : Nat) (n : Node)
    (h : ∀ p ∈ peers c R i, x ≠ n.name ∨ x ∉ p.left) :
    alookup (run n (syncOps c R i w)).members x =
      (alookup n.members x).map (fun m => (peers c R i).foldl (fun m p => peerUpd x p m) m) := by
  rw [syncOps_eq]
  refine run_merges_rec x w _ n (fun p hp => ⟨?_, h p hp⟩)
  obtain ⟨j, _, _, hcj⟩ := mem_peers.mp hp
  exact (hb.get hcj).keys

theorem max_peerTimes (c : Cluster) (R : List Nat) (x : Name) {i : Nat} (hi : i ∈ R) :
    ((peers c R i).map (peerTime x)).foldl max (ltimeAt c i x) = maxLtime c R x := by
  apply Nat.le_antisymm
  · refine (foldl_max_le _ _ _).mpr ⟨ltimeAt_le_max c R x hi, fun t ht => ?_⟩
    obtain ⟨p, hp, rfl⟩ := List.mem_map.mp ht
    exact peerTime_le_max hp x
  · obtain ⟨hself, hpeer⟩ := (foldl_max_le ((peers c R i).map (peerTime x)) (ltimeAt c i x) _).mp (Nat.le_refl _)
    refine (foldl_max_le _ _ _).mpr ⟨Nat.zero_le _, fun t ht => ?_⟩
    obtain ⟨j, hj, rfl⟩ := List.mem_map.mp ht
    by_cases hji : j = i
    · rw [hji]; exact hself
    · cases hcj : c.nodes[j]? with
      | none => simp [ltimeAt, hcj]
      | some p =>
        rw [ltimeAt_eq hcj]
        exact hpeer _ (List.mem_map.mpr ⟨p, mem_peers.mpr ⟨j, hj, hji, hcj⟩, rfl⟩)

theorem sync_rec_up (c : Cluster) (R : List Nat) (x : Name) (w : Nat) (hb : AllBook c)
    (hn : NobodyLeft c R x) {i : Nat} {n : Node} (hi : i ∈ R) (hc : c.nodes[i]? = some n) :
    alookup (run n (syncOps c R i w)).members x = (alookup n.members x).map (joinUpd (maxLtime c R x)) := by
  have hleft : ∀ p ∈ peers c R i, x ∉ p.left := by
    intro p hp
    obtain ⟨j, hj, _, hcj⟩ := mem_peers.mp hp
    rw [(hb.get hcj).leftIff]; exact hn j hj p hcj
  rw [sync_rec c R x w hb i n (fun p hp => Or.inr (hleft p hp))]
  cases hm : alookup n.members x with
  | none => rfl
  | some m =>
    -- the node's own record is a join intent at its own time
    have h := foldl_peerUpd_join x m _ hleft m.ltime
    rw [joinUpd_of_le (Nat.le_refl m.ltime), ← ltimeAt_of_lookup hc hm, max_peerTimes c R x hi] at h
    exact congrArg some h

theorem sync_view_up (c : Cluster) (R : List Nat) (x : Name) (w : Nat) (hb : AllBook c)
    (hn : NobodyLeft c R x) {i : Nat} {n : Node} (hi : i ∈ R) (hc : c.nodes[i]? = some n) :
    statusOf (run n (syncOps c R i w)) x = (statusOf n x).map
      (fun s => if s = .leaving ∧ ltimeAt c i x < maxLtime c R x then .alive else s) ∧
    ltimeOf (run n (syncOps c R i w)) x = (statusOf n x).map (fun _ => maxLtime c R x) := by
  unfold statusOf ltimeOf
  rw [sync_rec_up c R x w hb hn hi hc]
  cases hm : alookup n.members x with
  | none => exact ⟨rfl, rfl⟩
  | some m =>
    have hle : m.ltime ≤ maxLtime c R x := by rw [← ltimeAt_of_lookup hc hm]; exact ltimeAt_le_max c R x hi
    simp only [Option.map_some, joinUpd_status_eq, joinUpd_ltime, ltimeAt_of_lookup hc hm, Nat.max_eq_left hle,
      and_self]

/-- **running**: after the round EVERY running node that lists x lists it alive, at the common
status time `maxLtime` -/
theorem agreement_running (c : Cluster) (R : List Nat) (x : Name) (w : Nat) (hb : AllBook c)
    (hu : UpView c R x) (ht : NoTie c R x) :
    ∀ i ∈ R, ∀ n', (syncRound c R w).nodes[i]? = some n' → ∀ s, statusOf n' x = some s →
      s = .alive ∧ ltimeOf n' x = some (maxLtime c R x) := by
  intro i hi n' hn' s hs
  obtain ⟨n, hc, rfl⟩ := syncRound_node_inv hn' hi
  obtain ⟨hst, hlt⟩ := sync_view_up c R x w hb hu.nobodyLeft hi hc
  rw [hst] at hs
  obtain ⟨s0, hs0, rfl⟩ := Option.map_eq_some_iff.mp hs
  refine ⟨?_, by rw [hlt, hs0]; rfl⟩
  rcases (hu i hi n hc).2 with h | h | h
  · rw [hs0] at h; cases h
  · cases hs0.symm.trans h; exact if_neg fun h => nomatch h.1
  · cases hs0.symm.trans h; exact if_pos ⟨rfl, ht i hi n hc h⟩

/-- **down otherwise** (nobody holds a leave): everybody who lists x stays `failed`, and all end at
the common status time `maxLtime` -/
theorem agreement_failed (c : Cluster) (R : List Nat) (x : Name) (w : Nat) (hb : AllBook c)
    (hd : DownView c R x) (hn : NobodyLeft c R x) :
    ∀ i ∈ R, ∀ n', (syncRound c R w).nodes[i]? = some n' → ∀ s, statusOf n' x = some s →
      s = .failed ∧ ltimeOf n' x = some (maxLtime c R x) := by
  intro i hi n' hn' s hs
  obtain ⟨n, hc, rfl⟩ := syncRound_node_inv hn' hi
  obtain ⟨hst, hlt⟩ := sync_view_up c R x w hb hn hi hc
  rw [hst] at hs
  obtain ⟨s0, hs0, rfl⟩ := Option.map_eq_some_iff.mp hs
  refine ⟨?_, by rw [hlt, hs0]; rfl⟩
  rcases (hd i hi n hc).1 with h | h | h
  · rw [hs0] at h; cases h
  · cases hs0.symm.trans h; exact if_neg fun h => nomatch h.1
  · exact absurd h (hn i hi n hc)

/-- **mid-leave / in general while up**: whatever `NoTie` says, after the round every running node
that lists x lists it alive or leaving (never failed / left, never erased), nobody has it on its left
list, and the set of nodes listing x is unchanged (for every node, running or not) -/
theorem agreement_midleave (c : Cluster) (R : List Nat) (x : Name) (w : Nat) (hb : AllBook c)
    (hu : UpView c R x) :
    UpView (syncRound c R w) R x ∧
    ∀ (i : Nat) (n n' : Node), c.nodes[i]? = some n → (syncRound c R w).nodes[i]? = some n' →
      known n' x = known n x := by
  constructor
  · intro i hi n' hn'
    obtain ⟨n, hc, rfl⟩ := syncRound_node_inv hn' hi
    have key : statusOf (run n (syncOps c R i w)) x = none ∨ statusOf (run n (syncOps c R i w)) x = some .alive ∨
        statusOf (run n (syncOps c R i w)) x = some .leaving := by
      rw [(sync_view_up c R x w hb hu.nobodyLeft hi hc).1]
      rcases (hu i hi n hc).2 with h | h | h <;> rw [h]
      · exact Or.inl rfl
      · exact Or.inr (Or.inl (congrArg some (if_neg fun h => nomatch h.1)))
      · by_cases hlt : ltimeAt c i x < maxLtime c R x
        · exact Or.inr (Or.inl (congrArg some (if_pos ⟨rfl, hlt⟩)))
        · exact Or.inr (Or.inr (congrArg some (if_neg fun h => hlt h.2)))
    refine ⟨?_, key⟩
    rw [(inv_run _ n (hb.get hc)).leftIff x]
    intro e
    rcases key with h | h | h <;> rw [e] at h <;> cases h
  · intro i n n' hn hn'
    rw [syncRound_node, hn] at hn'
    cases hn'
    split
    · next hi =>
      unfold known
      rw [sync_rec_up c R x w hb hu.nobodyLeft hi hn]
      cases alookup n.members x <;> rfl
    · rfl

/-- `agreement_running` as a statement about pairs: any two running nodes that list x agree on its
status (alive) and on its status time. -/
theorem agreement_running_pair (c : Cluster) (R : List Nat) (x : Name) (w : Nat) (hb : AllBook c)
    (hu : UpView c R x) (ht : NoTie c R x) (a b : Nat) (ha : a ∈ R) (hb' : b ∈ R) (na nb : Node)
    (hna : (syncRound c R w).nodes[a]? = some na) (hnb : (syncRound c R w).nodes[b]? = some nb)
    (ka : known na x = true) (kb : known nb x = true) :
    statusOf na x = some .alive ∧ statusOf nb x = some .alive ∧ ltimeOf na x = ltimeOf nb x := by
  have h := agreement_running c R x w hb hu ht
  have hk : ∀ n : Node, known n x = true → ∃ s, statusOf n x = some s := by
    intro n hk
    obtain ⟨m, hm⟩ := Option.isSome_iff_exists.mp hk
    exact ⟨m.status, statusOf_of_lookup hm⟩
  obtain ⟨sa, hsa⟩ := hk na ka
  obtain ⟨sb, hsb⟩ := hk nb kb
  obtain ⟨e1, t1⟩ := h a ha na hna sa hsa
  obtain ⟨e2, t2⟩ := h b hb' nb hnb sb hsb
  subst e1; subst e2
  exact ⟨hsa, hsb, t1.trans t2.symm⟩

/-- `NoTie` is exactly the excluded class: under a truthful up view, a running node that lists x as
leaving at the newest status time known in the cluster STILL lists it as leaving after the round. -/
theorem tie_persists (c : Cluster) (R : List Nat) (x : Name) (w : Nat) (hb : AllBook c) (hu : UpView c R x)
    (i : Nat) (hi : i ∈ R) (n : Node) (hn : c.nodes[i]? = some n) (hs : statusOf n x = some .leaving)
    (ht : ¬ ltimeAt c i x < maxLtime c R x) :
    ∃ n', (syncRound c R w).nodes[i]? = some n' ∧ statusOf n' x = some .leaving ∧
      ltimeOf n' x = some (maxLtime c R x) := by
  refine ⟨run n (syncOps c R i w), by rw [syncRound_node, hn]; simp [hi], ?_⟩
  obtain ⟨hst, hlt⟩ := sync_view_up c R x w hb hu.nobodyLeft hi hn
  rw [hst, hlt, hs]
  exact ⟨congrArg some (if_neg (fun h => ht h.2)), rfl⟩

/-- what a record about the down `x` can be during the round, `M` being the newest status time known
before it: failed at a time up to `M`, or left -/
def DownRec (M : Nat) (m : Member) : Prop := (m.status = .failed ∧ m.ltime ≤ M) ∨ m.status = .left

theorem peerUpd_downRec (x : Name) (p : Node) (M : Nat) (m : Member) (hp : peerTime x p ≤ M)
    (hm : DownRec M m) : DownRec M (peerUpd x p m) := by
  rcases hm with ⟨hf, hle⟩ | hl
  · unfold peerUpd
    split
    · -- a leave claim: stale, or failed becomes left
      unfold leaveUpd
      split
      · exact Or.inl ⟨hf, hle⟩
      · right; show afterLeave m.status = .left; rw [hf]; rfl
    · left
      refine ⟨by rw [joinUpd_status _ m (by rw [hf]; simp)]; exact hf, ?_⟩
      rw [joinUpd_ltime]
      exact Nat.max_le.mpr ⟨hp, hle⟩
  · exact Or.inr (peerUpd_left x p m hl)

theorem peerUpd_left_at_max (x : Name) (p : Node) (M : Nat) (m : Member) (hM : M < two64 - 1)
    (hl : x ∈ p.left) (ht : peerTime x p = M) (hm : DownRec M m) : (peerUpd x p m).status = .left := by
  rcases hm with ⟨hf, hle⟩ | hl'
  · unfold peerUpd
    rw [if_pos hl, ht, succ_mod_two64 M hM, leaveUpd_of_lt (Nat.lt_succ_of_le hle)]
    show afterLeave m.status = .left
    rw [hf]; rfl
  · exact peerUpd_left x p m hl'

/-- split the peers at the one that holds the leave at `M`: up to it the record stays `DownRec M`, its merge
makes it `left`, and `left` it stays -/
theorem foldl_peerUpd_down (x : Name) (M : Nat) (hM : M < two64 - 1) (ps : List Node)
    (hle : ∀ p ∈ ps, peerTime x p ≤ M) {q : Node} (hq : q ∈ ps) (hl : x ∈ q.left) (ht : peerTime x q = M)
    (m : Member) (hm : DownRec M m) : (ps.foldl (fun m p => peerUpd x p m) m).status = .left := by
  obtain ⟨ps, qs, rfl⟩ := List.append_of_mem hq
  rw [List.foldl_append, List.foldl_cons]
  exact foldl_peerUpd_left x qs _ (peerUpd_left_at_max x q M _ hM hl ht
    (List.foldlRecOn ps _ hm fun a ha p hp => peerUpd_downRec x p M a (hle p (List.mem_append_left _ hp)) ha))

/-- **down after a leave newer than every join known in the cluster**: everybody who lists x ends
`left`.  (`hw`: the artificial leave time `maxLtime + 1` of `MergeRemoteState` does not wrap.) -/
theorem agreement_left (c : Cluster) (R : List Nat) (x : Name) (w : Nat) (hb : AllBook c)
    (hd : DownView c R x) (hl : SomeLeftAtMax c R x) (hw : maxLtime c R x < two64 - 1) :
    ∀ i ∈ R, ∀ n', (syncRound c R w).nodes[i]? = some n' → ∀ s, statusOf n' x = some s → s = .left := by
  intro i hi n' hn' s hs
  obtain ⟨n, hc, rfl⟩ := syncRound_node_inv hn' hi
  have hrec := sync_rec c R x w hb i n (fun _ _ => Or.inl (fun e => (hd i hi n hc).2 e.symm))
  obtain ⟨m', hm', rfl⟩ := statusOf_eq_iff.mp hs
  obtain ⟨m, hm, rfl⟩ := Option.map_eq_some_iff.mp (hrec.symm.trans hm')
  obtain ⟨b, hbR, nb, hnb, hbs, hbt⟩ := hl
  by_cases hbi : b = i
  · -- node `i` itself holds the leave
    subst hbi
    rw [hc] at hnb; cases hnb
    rw [statusOf_of_lookup hm] at hbs
    exact foldl_peerUpd_left x _ m (Option.some.inj hbs)
  · refine foldl_peerUpd_down x _ hw _ (fun p hp => peerTime_le_max hp x) (mem_peers.mpr ⟨b, hbR, hbi, hnb⟩)
      (((hb.get hnb).leftIff x).mpr hbs) (by rw [← ltimeAt_eq hnb, hbt]) m ?_
    -- before the round node `i` lists x failed or left, at a time up to the maximum
    rcases (hd i hi n hc).1 with h | h | h <;> rw [statusOf_of_lookup hm] at h
    · cases h
    · exact Or.inl ⟨Option.some.inj h, by rw [← ltimeAt_of_lookup hc hm]; exact ltimeAt_le_max c R x hi⟩
    · exact Or.inr (Option.some.inj h)

theorem allBook_init (names : List Name) (cfg : Config) : AllBook (Cluster.init names cfg) := by
  intro n hn
  simp only [Cluster.init, List.mem_map] at hn
  obtain ⟨nm, _, rfl⟩ := hn
  exact inv_init nm cfg

theorem allBook_crun_from (c : Cluster) (steps : List CStep) (h : AllBook c) : AllBook (crun c steps) := by
  intro n hn
  obtain ⟨i, hi⟩ := List.getElem?_of_mem hn
  have hlen : i < c.nodes.length := by
    rw [← SerfProofs.Cluster.crun_length c steps]; exact (List.getElem?_eq_some_iff.mp hi).1
  have h0 : c.nodes[i]? = some c.nodes[i] := List.getElem?_eq_getElem hlen
  rw [SerfProofs.Cluster.crun_node steps c i _ h0] at hi
  cases hi
  exact inv_run _ _ (h.get h0)

theorem allBook_crun (names : List Name) (cfg : Config) (steps : List CStep) :
    AllBook (crun (Cluster.init names cfg) steps) :=
  allBook_crun_from _ steps (allBook_init names cfg)

theorem allBook_syncRound (c : Cluster) (R : List Nat) (w : Nat) (h : AllBook c) : AllBook (syncRound c R w) := by
  intro n' hn'
  obtain ⟨i, hi⟩ := List.getElem?_of_mem hn'
  rw [syncRound_node] at hi
  obtain ⟨n, hn, rfl⟩ := Option.map_eq_some_iff.mp hi
  split
  · exact inv_run _ _ (h.get hn)
  · exact h.get hn

def view (c : Cluster) (x : Name) : List (Option Status × Option Nat) :=
  c.nodes.map (fun n => (statusOf n x, ltimeOf n x))

/-- literal copy of `SerfProofs.C02.tieRun` (Props/C02.lean; a Lemmas file does not import Props) -/
def tieRun' : List CStep :=
  [.notify 0 "x" true 0, .notify 1 "x" true 0, .notify 2 "a" true 0,
   .api 2 (.leaveBegin 0),
   .deliver 0 0 true, .deliver 1 0 false, .drop 0, .drop 0,
   .notify 0 "x" false 3, .notify 1 "x" false 3,
   .api 2 (.ownJoin 0),
   .notify 0 "x" true 0,
   .pushPull 0 1 0,
   .deliver 0 0 true, .deliver 1 0 false, .notify 1 "x" true 0]

/-- the cluster after the tie run: "a" (0), "p" (1), "x" (2), all running -/
def tieC : Cluster := crun (Cluster.init ["a", "p", "x"]) tieRun'

/-- The tie (recorded finding rejoined-stuck-leaving): in the state after `tieRun'` the memberlist
view is truthful (`UpView`), `NoTie` is FALSE ("a" lists x leaving at 2 = the cluster maximum), and
a complete round leaves "a" listing x as leaving, "p" and "x" as alive. -/
theorem tie_violates_NoTie :
    UpView tieC [0, 1, 2] "x" ∧ ¬ NoTie tieC [0, 1, 2] "x" ∧
    view tieC "x" = [(some .leaving, some 2), (some .alive, some 2), (some .alive, some 2)] ∧
    view (syncRound tieC [0, 1, 2] 0) "x" = [(some .leaving, some 2), (some .alive, some 2), (some .alive, some 2)] := by
  decide +kernel

/-- "w" (0) has force-left the running "x" (1); the claim never reaches "x" as gossip -/
def claimC : Cluster := crun wx [.api 0 (.forceLeave "x" false 0)]

/-- The unrefuted force-leave claim is excluded by the SAME hypothesis: `UpView` holds, `NoTie` is
false ("w" lists x leaving at 1, nobody knows a newer time), and a complete round leaves "w" listing
x as leaving while "x" lists itself alive — "x" has silently adopted the claim's time. -/
theorem claim_violates_NoTie :
    UpView claimC [0, 1] "x" ∧ ¬ NoTie claimC [0, 1] "x" ∧
    view claimC "x" = [(some .leaving, some 1), (some .alive, some 0)] ∧
    view (syncRound claimC [0, 1] 0) "x" = [(some .leaving, some 1), (some .alive, some 1)] := by
  decide +kernel

/-- "x" leaves (leave intent at 1 reaches "a" and "p"), comes back (join intent at 2), and the join
intent reaches only "p". -/
def healRun : List CStep :=
  [.notify 0 "x" true 0, .notify 1 "x" true 0, .notify 2 "a" true 0,
   .api 2 (.leaveBegin 0), .deliver 0 0 true, .deliver 1 0 false, .drop 0, .drop 0,
   .api 2 (.ownJoin 0), .deliver 1 0 false]
def healC : Cluster := crun (Cluster.init ["a", "p", "x"]) healRun

/-- Non-vacuity of `agreement_running`: a reachable cluster satisfying all its hypotheses in which
the observer "a" lists the running x as leaving (at 1 < 2); the round turns it back to alive and
everybody ends alive at time 2. -/
theorem running_example :
    AllBook healC ∧ UpView healC [0, 1, 2] "x" ∧ NoTie healC [0, 1, 2] "x" ∧
    view healC "x" = [(some .leaving, some 1), (some .alive, some 2), (some .alive, some 2)] ∧
    view (syncRound healC [0, 1, 2] 0) "x" = [(some .alive, some 2), (some .alive, some 2), (some .alive, some 2)] :=
  ⟨allBook_crun _ _ _, by decide +kernel⟩

example : ∀ i ∈ [0, 1, 2], ∀ n', (syncRound healC [0, 1, 2] 0).nodes[i]? = some n' → ∀ s,
    statusOf n' "x" = some s → s = .alive ∧ ltimeOf n' "x" = some (maxLtime healC [0, 1, 2] "x") :=
  agreement_running healC [0, 1, 2] "x" 0 running_example.1 running_example.2.1 running_example.2.2.1

/-- "x" is mid-leave: its leave intent (time 1) has reached "a" only. -/
def midRun : List CStep :=
  [.notify 0 "x" true 0, .notify 1 "x" true 0, .notify 2 "a" true 0,
   .api 2 (.leaveBegin 0), .deliver 0 0 true, .drop 0, .drop 0]
def midC : Cluster := crun (Cluster.init ["a", "p", "x"]) midRun

/-- Non-vacuity of `agreement_midleave`: x really is mid-leave, so `NoTie` is (rightly) false; the
round keeps "a" and "x" at leaving, "p" at alive — each alive or leaving, as the property allows. -/
theorem midleave_example :
    AllBook midC ∧ UpView midC [0, 1, 2] "x" ∧ ¬ NoTie midC [0, 1, 2] "x" ∧
    view midC "x" = [(some .leaving, some 1), (some .alive, some 0), (some .leaving, some 1)] ∧
    view (syncRound midC [0, 1, 2] 0) "x" = [(some .leaving, some 1), (some .alive, some 1), (some .leaving, some 1)] :=
  ⟨allBook_crun _ _ _, by decide +kernel⟩

/-- "x" leaves gracefully; the leave intent (time 1) reaches "b" only; memberlist reports x down to
"b" (left) and "c" (failed).  "x" (node 2) is down: R = [0, 1]. -/
def leftRun : List CStep :=
  [.notify 0 "x" true 0, .notify 1 "x" true 0, .notify 2 "b" true 0,
   .api 2 (.leaveBegin 0), .deliver 0 0 false, .drop 0,
   .notify 0 "x" false 3, .notify 1 "x" false 3]
def leftC : Cluster := crun (Cluster.init ["b", "c", "x"]) leftRun

/-- Non-vacuity of `agreement_left`: "b" left@1 (the maximum), "c" failed@0; after the round both
list x as left. -/
theorem left_example :
    AllBook leftC ∧ DownView leftC [0, 1] "x" ∧ SomeLeftAtMax leftC [0, 1] "x" ∧
    maxLtime leftC [0, 1] "x" < two64 - 1 ∧
    (view leftC "x").take 2 = [(some .left, some 1), (some .failed, some 0)] ∧
    (view (syncRound leftC [0, 1] 0) "x").take 2 = [(some .left, some 1), (some .left, some 2)] :=
  ⟨allBook_crun _ _ _, by decide +kernel⟩

example : ∀ i ∈ [0, 1], ∀ n', (syncRound leftC [0, 1] 0).nodes[i]? = some n' → ∀ s,
    statusOf n' "x" = some s → s = .left :=
  agreement_left leftC [0, 1] "x" 0 left_example.1 left_example.2.1 left_example.2.2.1 left_example.2.2.2.1

/-- x fails without any leave: "c" has seen a join intent at time 2, "b" has not. -/
def failRun : List CStep :=
  [.notify 0 "x" true 0, .notify 1 "x" true 0, .notify 2 "b" true 0,
   .api 2 (.ownJoin 0), .deliver 1 0 false,
   .notify 0 "x" false 3, .notify 1 "x" false 3]
def failC : Cluster := crun (Cluster.init ["b", "c", "x"]) failRun

/-- Non-vacuity of `agreement_failed`. -/
theorem failed_example :
    AllBook failC ∧ DownView failC [0, 1] "x" ∧ NobodyLeft failC [0, 1] "x" ∧
    (view failC "x").take 2 = [(some .failed, some 0), (some .failed, some 1)] ∧
    (view (syncRound failC [0, 1] 0) "x").take 2 = [(some .failed, some 1), (some .failed, some 1)] :=
  ⟨allBook_crun _ _ _, by decide +kernel⟩

/-- The stale leave.  "x" leaves gracefully (leave intent at 1), only "b" hears it and memberlist
reports x down to "b": left@1.  "x" comes back and announces itself twice (join intents at 2 and 3);
"c" hears the one at 3 — "b" never sees x's second life (memberlist has not yet told it) — then x
dies: "c" lists it failed@3. -/
def staleRun : List CStep :=
  [.notify 0 "x" true 0, .notify 1 "x" true 0, .notify 2 "b" true 0,
   .api 2 (.leaveBegin 0), .deliver 0 0 false, .drop 0, .notify 0 "x" false 3,
   .api 2 (.ownJoin 0), .api 2 (.ownJoin 0), .deliver 1 1 false, .drop 0, .drop 0,
   .notify 1 "x" false 9]
def staleC : Cluster := crun (Cluster.init ["b", "c", "x"]) staleRun

/-- The down class between `agreement_left` and `agreement_failed`: some node holds a leave, but at
a time BELOW the cluster maximum.  `DownView` holds, `SomeLeftAtMax` and `NobodyLeft` both fail; after
ONE complete round "b" lists x left and "c" lists it failed (the artificial leave 1 + 1 = 2 is older
than "c"'s 3) — disagreement; the round has lifted "b" to left@3, so `SomeLeftAtMax` holds after it
and a SECOND round makes both list x as left. -/
theorem stale_left_counterexample :
    AllBook staleC ∧ DownView staleC [0, 1] "x" ∧ ¬ SomeLeftAtMax staleC [0, 1] "x" ∧ ¬ NobodyLeft staleC [0, 1] "x" ∧
    (view staleC "x").take 2 = [(some .left, some 1), (some .failed, some 3)] ∧
    (view (syncRound staleC [0, 1] 0) "x").take 2 = [(some .left, some 3), (some .failed, some 3)] ∧
    SomeLeftAtMax (syncRound staleC [0, 1] 0) [0, 1] "x" ∧
    (view (syncRound (syncRound staleC [0, 1] 0) [0, 1] 0) "x").take 2 = [(some .left, some 3), (some .left, some 4)] :=
  ⟨allBook_crun _ _ _, by decide +kernel⟩

/-- a leave intent about x carrying the largest uint64 Lamport time reaches "b" -/
def wrapRun : List CStep :=
  [.notify 0 "x" true 0, .notify 1 "x" true 0,
   .api 0 (.leaveMsg "x" 18446744073709551615 false 0),
   .notify 0 "x" false 3, .notify 1 "x" false 3]
def wrapC : Cluster := crun (Cluster.init ["b", "c", "x"]) wrapRun

/-- The no-wrap hypothesis `hw` of `agreement_left` is needed: with "b" left at time 2^64 - 1 the
artificial leave of `MergeRemoteState` is at (2^64 - 1) + 1 = 0 (uint64) and never applies: "c" keeps
listing x as failed, round after round. -/
theorem wrap_counterexample :
    AllBook wrapC ∧ DownView wrapC [0, 1] "x" ∧ SomeLeftAtMax wrapC [0, 1] "x" ∧
    ¬ maxLtime wrapC [0, 1] "x" < two64 - 1 ∧
    (view (syncRound wrapC [0, 1] 0) "x").take 2 = [(some .left, some 18446744073709551615), (some .failed, some 0)] ∧
    syncRound (syncRound wrapC [0, 1] 0) [0, 1] 0 = syncRound wrapC [0, 1] 0 :=
  ⟨allBook_crun _ _ _, by decide +kernel⟩

end SerfProofs.ClusterSync
