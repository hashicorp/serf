/-
Lemmas about the Vivaldi client model (Model/Coord.lean).  Structural facts (vector lengths, which fields ApplyForce
touches, the shape of `update`) need no arithmetic laws; the height and error bounds use `LawfulFloatLike`.
-/
import SerfModel.Model.Coord
import SerfProofs.Lemmas.FloatLaws
namespace SerfModel.Coord
open SerfModel FloatLike

variable {F : Type} [FloatLike F]

theorem draws_length (n : Nat) (r : List F) : (draws n r).1.length = n := by
  induction n generalizing r with
  | zero => simp [draws]
  | succ n ih => cases r <;> simp [draws, ih]

theorem firstAxis_length (n : Nat) : (firstAxis n : List F).length = n := by
  cases n <;> simp [firstAxis]

theorem unitVectorAt_length (rnd v1 v2 : List F) (h : v1.length = v2.length) :
    (unitVectorAt rnd v1 v2).1.1.length = v1.length := by
  unfold unitVectorAt
  simp only []
  split
  · simp [mulv, diffv, h]
  · split
    · simp [mulv, diffv, draws_length, h]
    · simp [firstAxis_length, diffv, h]

theorem applyForce_vec_length (cfg : Config F) (rnd : List F) (c : Coordinate F) (f : F) (o : Coordinate F)
    (h : c.vec.length = o.vec.length) : (applyForce cfg rnd c f o).1.vec.length = c.vec.length := by
  simp [applyForce, addv, mulv, unitVectorAt_length rnd c.vec o.vec h]

theorem applyForce_error (cfg : Config F) (rnd : List F) (c : Coordinate F) (f : F) (o : Coordinate F) :
    (applyForce cfg rnd c f o).1.error = c.error := rfl

theorem applyForce_adjustment (cfg : Config F) (rnd : List F) (c : Coordinate F) (f : F) (o : Coordinate F) :
    (applyForce cfg rnd c f o).1.adjustment = c.adjustment := rfl

theorem insertAsc_length (x : F) (l : List F) : (insertAsc x l).length = l.length + 1 := by
  induction l with
  | nil => rfl
  | cons y ys ih => simp only [insertAsc]; split <;> simp [ih]

theorem sortAsc_length (l : List F) : (sortAsc l).length = l.length := by
  induction l with
  | nil => rfl
  | cons x xs ih => rw [sortAsc, List.foldr_cons, insertAsc_length, ← sortAsc, ih, List.length_cons]

theorem newCoordinate_length (cfg : Config F) : (newCoordinate cfg).vec.length = cfg.dim := by
  simp [newCoordinate]

/-- `HN hmin h`: the height is NaN or at least the minimum — what `ApplyForce` maintains. -/
def HN (hmin h : F) : Prop := isNaN h = true ∨ le hmin h = true

theorem applyForce_height [LawfulFloatLike F] (cfg : Config F) (rnd : List F) (c : Coordinate F) (f : F)
    (o : Coordinate F) (hm : isNaN cfg.heightMin = false) (h : HN cfg.heightMin c.height) :
    HN cfg.heightMin (applyForce cfg rnd c f o).1.height := by
  simp only [applyForce]
  split
  · exact (Bool.eq_false_or_eq_true _).imp id (LawfulFloatLike.max_ge_right _ _ hm)
  · exact h

theorem distanceTo_of_compat {a b : Coordinate F} (h : a.vec.length = b.vec.length) :
    distanceTo a b = .ok (distanceNs a b) := by
  simp [distanceTo, isCompatibleWith, h]

theorem distanceTo_of_incompat {a b : Coordinate F} (h : a.vec.length ≠ b.vec.length) :
    distanceTo a b = .dimensionalityConflict := by
  simp [distanceTo, isCompatibleWith, h]

theorem checkCoordinate_eq_none_iff {cl : Client F} {c : Coordinate F} :
    checkCoordinate cl c = none ↔ cl.coord.vec.length = c.vec.length ∧ isValid c = true := by
  by_cases h1 : cl.coord.vec.length = c.vec.length <;> by_cases h2 : isValid c = true <;>
    simp [checkCoordinate, isCompatibleWith, h1, h2]

theorem rejection_eq_none_iff {cl : Client F} {o : Coordinate F} {rttNs : Int} :
    rejection cl o rttNs = none ↔
      cl.coord.vec.length = o.vec.length ∧ isValid o = true ∧ 0 ≤ rttNs ∧ rttNs ≤ 10000000000 := by
  unfold rejection
  cases h : checkCoordinate cl o with
  | some r =>
    simp only [reduceCtorEq, false_iff]
    intro h'
    rw [checkCoordinate_eq_none_iff.2 ⟨h'.1, h'.2.1⟩] at h
    cases h
  | none => simp [checkCoordinate_eq_none_iff.1 h]

/-- with `LatencyFilterSize ≥ 1` the window keeps at least the newest sample, so its median exists -/
theorem latencyFilter_ne_none (cfg : Config F) (hpos : 0 < cfg.latencyFilterSize) (cl : Client F) (node : String)
    (rtt : F) : (latencyFilter cfg cl node rtt).2 ≠ none := by
  simp only [latencyFilter, ne_eq, List.getElem?_eq_none_iff, Nat.not_le, sortAsc_length]
  apply Nat.div_lt_self _ (by decide)
  split
  · simp only [List.length_drop]; omega
  · simp

theorem latencyFilter_coord (cfg : Config F) (cl : Client F) (node : String) (rtt : F) :
    (latencyFilter cfg cl node rtt).1.coord = cl.coord := rfl

theorem updateVivaldi_coord (cfg : Config F) (rnd : List F) (cl : Client F) (o : Coordinate F) (rtt : F) :
    (updateVivaldi cfg rnd cl o rtt).1.coord =
      (applyForce cfg rnd
        { cl.coord with error := (vivaldiError cfg cl.coord.error o.error (durSeconds (distanceNs cl.coord o))
            (if lt rtt zeroThreshold then zeroThreshold else rtt)) }
        (vivaldiForce cfg cl.coord.error o.error (durSeconds (distanceNs cl.coord o))
            (if lt rtt zeroThreshold then zeroThreshold else rtt)) o).1 := rfl

theorem updateAdjustment_coord (cfg : Config F) (cl : Client F) (o : Coordinate F) (rtt : F) :
    ∃ adj, (updateAdjustment cfg cl o rtt).coord = { cl.coord with adjustment := adj } := by
  unfold updateAdjustment
  split
  · exact ⟨cl.coord.adjustment, rfl⟩
  · exact ⟨_, rfl⟩

theorem updateGravity_coord (cfg : Config F) (rnd : List F) (cl : Client F) :
    (updateGravity cfg rnd cl).1.coord =
      (applyForce cfg rnd cl.coord
        (mul (ofInt (-1)) (sq (div (durSeconds (distanceNs (newCoordinate cfg) cl.coord)) cfg.gravityRho)))
        (newCoordinate cfg)).1 := rfl

section update
variable (cfg : Config F) (cl : Client F) (node : String) (o : Coordinate F) (rttNs : Int) (rnd : List F) (rtt : F)

/-- The client after the three arithmetic steps of an accepted update, before the final
validity check (client.go:225-228). -/
def stepped : Client F :=
  let cl1 := (latencyFilter cfg cl node (rttSeconds rttNs)).1
  let v := updateVivaldi cfg rnd cl1 o rtt
  (updateGravity cfg v.2 (updateAdjustment cfg v.1 o rtt)).1

/-- The stepped coordinate: the new error estimate, a force towards or away from the peer, a new adjustment,
a force towards the origin. -/
theorem stepped_coord : ∃ adj f1 f2 r2,
    (stepped cfg cl node o rttNs rnd rtt).coord =
      (applyForce cfg r2
        { (applyForce cfg rnd
            { cl.coord with error := (vivaldiError cfg cl.coord.error o.error (durSeconds (distanceNs cl.coord o))
                (if lt rtt zeroThreshold then zeroThreshold else rtt)) } f1 o).1 with adjustment := adj }
        f2 (newCoordinate cfg)).1 := by
  obtain ⟨adj, h⟩ := updateAdjustment_coord cfg
    (updateVivaldi cfg rnd (latencyFilter cfg cl node (rttSeconds rttNs)).1 o rtt).1 o rtt
  exact ⟨adj, _, _, _, by rw [stepped, updateGravity_coord, h, updateVivaldi_coord]; rfl⟩

theorem stepped_vec_length (hc : cl.coord.vec.length = o.vec.length) (hd : cl.coord.vec.length = cfg.dim) :
    (stepped cfg cl node o rttNs rnd rtt).coord.vec.length = cfg.dim := by
  obtain ⟨adj, f1, f2, r2, h⟩ := stepped_coord cfg cl node o rttNs rnd rtt
  have h1 := applyForce_vec_length cfg rnd { cl.coord with error := _ } f1 o hc
  rw [h, applyForce_vec_length _ _ _ _ _ (by rw [newCoordinate_length]; exact h1.trans hd)]
  exact h1.trans hd

theorem stepped_height [LawfulFloatLike F] (hm : isNaN cfg.heightMin = false)
    (h : HN cfg.heightMin cl.coord.height) :
    HN cfg.heightMin (stepped cfg cl node o rttNs rnd rtt).coord.height := by
  obtain ⟨adj, f1, f2, r2, e⟩ := stepped_coord cfg cl node o rttNs rnd rtt
  rw [e]
  exact applyForce_height _ _ _ _ _ hm (applyForce_height _ _ { cl.coord with error := _ } _ _ hm h)

theorem update_cases :
    (∃ r, rejection cl o rttNs = some r ∧ update cfg cl node o rttNs rnd = (cl, .rejected r)) ∨
    (rejection cl o rttNs = none ∧ (update cfg cl node o rttNs rnd).2 = .panic ∧
        (update cfg cl node o rttNs rnd).1.coord = cl.coord ∧
        (latencyFilter cfg cl node (rttSeconds rttNs)).2 = none) ∨
    (rejection cl o rttNs = none ∧ (update cfg cl node o rttNs rnd).2 = .ok ∧
      ∃ rtt, (latencyFilter cfg cl node (rttSeconds rttNs)).2 = some rtt ∧
        (((update cfg cl node o rttNs rnd).1.coord = (stepped cfg cl node o rttNs rnd rtt).coord ∧
            isValid (stepped cfg cl node o rttNs rnd rtt).coord = true) ∨
         ((update cfg cl node o rttNs rnd).1.coord = newCoordinate cfg ∧
            isValid (stepped cfg cl node o rttNs rnd rtt).coord = false))) := by
  unfold update
  cases hr : rejection cl o rttNs with
  | some r => exact Or.inl ⟨r, rfl, rfl⟩
  | none =>
    refine Or.inr ?_
    cases hl : (latencyFilter cfg cl node (rttSeconds rttNs)).2 with
    | none => exact Or.inl ⟨rfl, rfl, rfl, rfl⟩
    | some rtt =>
      refine Or.inr ⟨rfl, ?_, rtt, rfl, ?_⟩
      · simp only []; split <;> rfl
      · simp only []
        cases hv : isValid (stepped cfg cl node o rttNs rnd rtt).coord
        · right; simp [stepped] at hv; simp [hv]
        · left; simp [stepped] at hv; simp [hv, stepped]

theorem update_coord_ind (P : Coordinate F → Prop) (h : P cl.coord) (hnew : P (newCoordinate cfg))
    (hstep : ∀ rtt, rejection cl o rttNs = none → isValid (stepped cfg cl node o rttNs rnd rtt).coord = true →
      P (stepped cfg cl node o rttNs rnd rtt).coord) :
    P (update cfg cl node o rttNs rnd).1.coord := by
  rcases update_cases cfg cl node o rttNs rnd with ⟨r, _, hu⟩ | ⟨_, _, hu, _⟩ | ⟨hr, _, rtt, _, ⟨hu, hv⟩ | ⟨hu, _⟩⟩
  · rw [hu]; exact h
  · rw [hu]; exact h
  · rw [hu]; exact hstep rtt hr hv
  · rw [hu]; exact hnew

end update

theorem finite_not_nan {x : F} (h : finite x = true) : isNaN x = false := by
  simp [finite] at h; exact h.2

theorem isValid_newCoordinate [LawfulFloatLike F] (cfg : Config F)
    (he : finite cfg.errorMax = true) (hh : finite cfg.heightMin = true) : isValid (newCoordinate cfg) = true := by
  have hz : finite (zero : F) = true := LawfulFloatLike.zero_finite
  simp [isValid, newCoordinate, he, hh, hz]

theorem newClient_coord {cfg : Config F} {cl0 : Client F} (h0 : newClient cfg = some cl0) :
    cl0.coord = newCoordinate cfg := by
  unfold newClient at h0
  split at h0
  · cases h0
  · cases h0; rfl

theorem isValid_height {c : Coordinate F} (h : isValid c = true) : isNaN c.height = false := by
  simp [isValid] at h; exact finite_not_nan h.2.2

theorem isValid_error {c : Coordinate F} (h : isValid c = true) : isNaN c.error = false := by
  simp [isValid] at h; exact finite_not_nan h.2.1.1

theorem U_NN {x : F} (h : U x) : NN x := h.elim Or.inl (fun h => Or.inr h.1)

/-- `EN emax e`: the error estimate is NaN or in [0, emax] — what the clamp of `updateVivaldi` maintains. -/
def EN (emax e : F) : Prop := isNaN e = true ∨ (le (zero : F) e = true ∧ le e emax = true)

section error
variable [LawfulFloatLike F]
open LawfulFloatLike

/-- the lower clamp `if x < 1e-6 { x = 1e-6 }` of `updateVivaldi` (on the rtt and on the total error): the result is
NaN, or at least the threshold and at least `x` -/
theorem clampLo_ge (x : F) :
    isNaN (if lt x zeroThreshold then zeroThreshold else x) = true ∨
      (le (zeroThreshold : F) (if lt x zeroThreshold then zeroThreshold else x) = true ∧
        le x (if lt x zeroThreshold then zeroThreshold else x) = true) := by
  have ht := (lt_not_nan _ _ (thr_pos (F := F))).2
  cases hl : lt x (zeroThreshold : F) with
  | true => simp only [if_true]; exact Or.inr ⟨le_refl _ ht, le_of_lt _ _ hl⟩
  | false =>
    simp only [Bool.false_eq_true, if_false]
    cases hn : isNaN x with
    | true => exact Or.inl rfl
    | false => exact Or.inr ⟨le_of_not_lt _ _ ht hn hl, le_refl _ hn⟩

/-- the confidence weight `e / max(e + eo, 1e-6)` is in [0,1] or NaN -/
theorem weight_unit (e eo : F) (he : le (zero : F) e = true) (ho : le (zero : F) eo = true) :
    U (div e (if lt (add e eo) zeroThreshold then zeroThreshold else add e eo)) := by
  rcases clampLo_ge (add e eo) with hn | ⟨hthr, hx⟩
  · exact Or.inl (div_nan_right _ _ hn)
  · have hle := (add_ge_left e eo he ho).resolve_left (Bool.eq_false_iff.1 (le_not_nan _ _ hx).1)
    exact unit_div e _ he (le_trans _ _ _ hle hx) (lt_of_lt_of_le _ _ _ thr_pos hthr)

theorem clamp_bounds (pre emax : F) (hm0 : le (zero : F) emax = true) (hpre : NN pre) :
    EN emax (if gt pre emax then emax else pre) := by
  have hmn : isNaN emax = false := (le_not_nan _ _ hm0).2
  cases hgt : gt pre emax with
  | true => simp only [if_true]; exact Or.inr ⟨hm0, le_refl _ hmn⟩
  | false =>
    simp only [Bool.false_eq_true, if_false]
    rcases hpre with h | h
    · exact Or.inl h
    · exact Or.inr ⟨h, le_of_not_lt _ _ (le_not_nan _ _ h).2 hmn hgt⟩

theorem vivaldiError_bounds (cfg : Config F) (e eo dist rtt : F)
    (hce0 : le (zero : F) cfg.ce = true) (hce1 : le cfg.ce (one : F) = true)
    (hm0 : le (zero : F) cfg.errorMax = true)
    (he : le (zero : F) e = true) (ho : le (zero : F) eo = true) (hrtt : NN rtt) :
    EN cfg.errorMax (vivaldiError cfg e eo dist rtt) := by
  -- ce·w·(|dist - rtt| / rtt) + e·(1 - ce·w) with the weight w, clamped to ErrorMax
  have hcw := unit_mul _ _ (Or.inr ⟨hce0, hce1⟩) (weight_unit e eo he ho)
  exact clamp_bounds _ _ hm0
    (nn_add _ _ (nn_mul _ _ (U_NN hcw) (nn_div _ _ (nn_abs _) hrtt)) (nn_mul _ _ (Or.inr he) (one_sub_unit _ hcw)))

theorem nn_clampedRtt (rtt : F) : NN (if lt rtt (zeroThreshold : F) then (zeroThreshold : F) else rtt) := by
  rcases clampLo_ge rtt with hn | ⟨hthr, _⟩
  · exact Or.inl hn
  · exact Or.inr (le_trans _ _ _ (le_of_lt _ _ thr_pos) hthr)

theorem stepped_error_bounds (cfg : Config F) (cl : Client F) (node : String) (o : Coordinate F) (rttNs : Int)
    (rnd : List F) (rtt : F) (hce0 : le (zero : F) cfg.ce = true) (hce1 : le cfg.ce (one : F) = true)
    (hm0 : le (zero : F) cfg.errorMax = true) (he : le (zero : F) cl.coord.error = true)
    (ho : le (zero : F) o.error = true) : EN cfg.errorMax (stepped cfg cl node o rttNs rnd rtt).coord.error := by
  obtain ⟨adj, f1, f2, r2, e⟩ := stepped_coord cfg cl node o rttNs rnd rtt
  rw [e]
  exact vivaldiError_bounds cfg _ _ _ _ hce0 hce1 hm0 he ho (nn_clampedRtt rtt)

end error

end SerfModel.Coord
