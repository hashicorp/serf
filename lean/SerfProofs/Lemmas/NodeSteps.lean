/-
What one handler / one `step` of the node model (`SerfModel.Node`) does; the other files of node proofs
rest on this one.  Each basic handler is described once, case by case, with the result of every case
written out as one structure literal (`hli_ind`, `hji_ind`, `hnj_ind`, `hnl_ind`; for the two intent
handlers the same cases also as conditional equations), so that what it does to a field or to a record
is a projection.  Every op is a change of its own followed by join / leave intents (`parts`, `step_eq`),
and only memberlist's two notifications and the reaper touch more than clock, life and pending in the
first part: a fact that does not read those three needs one lemma per intent kind, one per notification
and one for the reaper (`step_ind`).
Core Lean only.
-/
import SerfProofs.Lemmas.Assoc
import SerfProofs.Lemmas.NodeLists
namespace SerfProofs.NodeSteps
open SerfModel SerfModel.Node

theorem statusOf_congr {n n' : Node} (h : n'.members = n.members) (x : Name) :
    statusOf n' x = statusOf n x := by
  simp [statusOf, h]

theorem statusOf_of_lookup {n : Node} {x : Name} {m : Member} (h : alookup n.members x = some m) :
    statusOf n x = some m.status := by
  simp [statusOf, h]

theorem statusOf_of_lookup_none {n : Node} {x : Name} (h : alookup n.members x = none) :
    statusOf n x = none := by
  simp [statusOf, h]

theorem ltimeOf_of_lookup {n : Node} {x : Name} {m : Member} (h : alookup n.members x = some m) :
    ltimeOf n x = some m.ltime := by
  simp [ltimeOf, h]

theorem known_of_lookup {n : Node} {x : Name} {m : Member} (h : alookup n.members x = some m) :
    known n x = true := by simp [known, h]

theorem known_of_lookup_none {n : Node} {x : Name} (h : alookup n.members x = none) :
    known n x = false := by simp [known, h]

theorem known_congr {n n' : Node} (hm : n'.members = n.members) (x : Name) : known n' x = known n x := by
  simp [known, hm]

theorem statusOf_eq_iff {n : Node} {x : Name} {s : Status} :
    statusOf n x = some s ↔ ∃ m, alookup n.members x = some m ∧ m.status = s :=
  Option.map_eq_some_iff

theorem ltimeOf_eq_iff {n : Node} {x : Name} {t : Nat} :
    ltimeOf n x = some t ↔ ∃ m, alookup n.members x = some m ∧ m.ltime = t :=
  Option.map_eq_some_iff

/-- The status a newer leave claim gives a member. -/
def afterLeave : Status → Status
  | .alive => .leaving
  | .failed => .left
  | s => s

/-- effect of a leave claim at time `lt` (no prune) on a record -/
def leaveUpd (lt : Nat) (m : Member) : Member :=
  if lt ≤ m.ltime then m else { m with ltime := lt, status := afterLeave m.status }

/-- effect of a join intent at time `lt` on a record -/
def joinUpd (lt : Nat) (m : Member) : Member :=
  if lt ≤ m.ltime then m else { m with ltime := lt, status := if m.status = .leaving then .alive else m.status }

/-- effect of memberlist's leave notification on a record -/
def downUpd (at_ : Nat) (m : Member) : Member :=
  match m.status with
  | .leaving => { m with status := .left, leaveTime := at_ }
  | .alive => { m with status := .failed, leaveTime := at_ }
  | _ => m

/-- the record memberlist's join notification creates for an unknown member -/
def newRec : Option Intent → Member
  | some i => if i.isLeave then { status := .leaving, ltime := i.ltime } else { status := .alive, ltime := i.ltime }
  | none => { status := .alive, ltime := 0 }

theorem leaveUpd_of_le {lt : Nat} {m : Member} (h : lt ≤ m.ltime) : leaveUpd lt m = m := if_pos h

theorem leaveUpd_of_lt {lt : Nat} {m : Member} (h : m.ltime < lt) :
    leaveUpd lt m = { m with ltime := lt, status := afterLeave m.status } := if_neg (Nat.not_le.mpr h)

theorem joinUpd_of_le {lt : Nat} {m : Member} (h : lt ≤ m.ltime) : joinUpd lt m = m := if_pos h

theorem joinUpd_of_lt {lt : Nat} {m : Member} (h : m.ltime < lt) :
    joinUpd lt m = { m with ltime := lt, status := if m.status = .leaving then .alive else m.status } :=
  if_neg (Nat.not_le.mpr h)

theorem joinUpd_zero : joinUpd 0 = id := funext fun _ => joinUpd_of_le (Nat.zero_le _)

theorem joinUpd_joinUpd (a b : Nat) (m : Member) : joinUpd b (joinUpd a m) = joinUpd (max a b) m := by
  rcases Nat.lt_or_ge m.ltime a with ha | ha
  · rcases Nat.lt_or_ge a b with hb | hb
    · -- both apply; the second meets a record that is no longer `leaving`
      rw [Nat.max_eq_right (Nat.le_of_lt hb), joinUpd_of_lt (Nat.lt_trans ha hb), joinUpd_of_lt ha]
      refine (joinUpd_of_lt (lt := b) hb).trans ?_
      by_cases hs : m.status = .leaving <;> simp [hs]
    · rw [Nat.max_eq_left hb, joinUpd_of_lt ha]
      exact joinUpd_of_le hb
  · rw [joinUpd_of_le ha]
    rcases Nat.lt_or_ge m.ltime b with hb | hb
    · rw [Nat.max_eq_right (Nat.le_trans ha (Nat.le_of_lt hb))]
    · rw [joinUpd_of_le hb, joinUpd_of_le (Nat.max_le.mpr ⟨ha, hb⟩)]

theorem joinUpd_ltime (t : Nat) (m : Member) : (joinUpd t m).ltime = max t m.ltime := by
  rcases Nat.lt_or_ge m.ltime t with h | h
  · rw [joinUpd_of_lt h, Nat.max_eq_left (Nat.le_of_lt h)]
  · rw [joinUpd_of_le h, Nat.max_eq_right h]

theorem joinUpd_status_eq (t : Nat) (m : Member) :
    (joinUpd t m).status = if m.status = .leaving ∧ m.ltime < t then .alive else m.status := by
  rcases Nat.lt_or_ge m.ltime t with h | h
  · rw [joinUpd_of_lt h]
    by_cases hs : m.status = .leaving <;> simp [hs, h]
  · rw [joinUpd_of_le h, if_neg (fun h' => Nat.not_lt.mpr h h'.2)]

theorem leaveUpd_idem (lt : Nat) (m : Member) : leaveUpd lt (leaveUpd lt m) = leaveUpd lt m := by
  by_cases h : lt ≤ m.ltime
  · rw [leaveUpd_of_le h, leaveUpd_of_le h]
  · rw [leaveUpd_of_lt (Nat.lt_of_not_le h)]
    exact leaveUpd_of_le (Nat.le_refl lt)

theorem leaveUpd_ltime_le (lt : Nat) (m : Member) : m.ltime ≤ (leaveUpd lt m).ltime := by
  unfold leaveUpd
  split
  · exact Nat.le_refl _
  · next h => exact Nat.le_of_lt (Nat.lt_of_not_le h)

theorem joinUpd_ltime_le (lt : Nat) (m : Member) : m.ltime ≤ (joinUpd lt m).ltime :=
  joinUpd_ltime lt m ▸ Nat.le_max_right ..

theorem downUpd_ltime (a : Nat) (m : Member) : (downUpd a m).ltime = m.ltime := by
  unfold downUpd
  split <;> rfl

theorem leaveUpd_status_left (lt : Nat) (m : Member) (h : m.status = .left) : (leaveUpd lt m).status = .left := by
  unfold leaveUpd
  split
  · exact h
  · simp [h, afterLeave]

theorem joinUpd_status (lt : Nat) (m : Member) (h : m.status ≠ .leaving) : (joinUpd lt m).status = m.status := by
  rw [joinUpd_status_eq, if_neg fun h' => h h'.1]

theorem downUpd_of_down {a : Nat} {m : Member} (h1 : m.status ≠ .leaving) (h2 : m.status ≠ .alive) :
    downUpd a m = m := by
  unfold downUpd
  split
  · next h => exact absurd h h1
  · next h => exact absurd h h2
  · rfl

theorem downUpd_status_left (a : Nat) (m : Member) (h : m.status = .left) : (downUpd a m).status = .left := by
  unfold downUpd; rw [h]; exact h

theorem downUpd_status_failed (a : Nat) (m : Member) (h : m.status = .failed) : (downUpd a m).status = .failed := by
  unfold downUpd; rw [h]; exact h

theorem newRec_ltime (i : Option Intent) : (newRec i).ltime = (i.map (·.ltime)).getD 0 := by
  cases i with
  | none => rfl
  | some i =>
    show (if i.isLeave then _ else _ : Member).ltime = i.ltime
    split <;> rfl

theorem newRec_status (i : Option Intent) : (newRec i).status = .alive ∨ (newRec i).status = .leaving := by
  cases i with
  | none => exact Or.inl rfl
  | some i => cases hi : i.isLeave <;> simp [newRec, hi]

/-- Nothing changes and an entry at least as new exists; or the call reports true, every entry for `x` is the new
intent and any old one was older. -/
theorem upsertIntent_cases (ints : List (Name × Intent)) (x : Name) (b : Bool) (lt w : Nat) :
    (upsertIntent ints x b lt w = (ints, false) ∧ ∃ i, alookup ints x = some i ∧ lt ≤ i.ltime) ∨
    ((upsertIntent ints x b lt w).2 = true ∧
      alookup (upsertIntent ints x b lt w).1 x = some ⟨b, lt, w⟩ ∧
      (∀ i, (x, i) ∈ (upsertIntent ints x b lt w).1 → i = ⟨b, lt, w⟩) ∧
      ∀ i, alookup ints x = some i → i.ltime < lt) := by
  unfold upsertIntent
  split
  · next i hi =>
    split
    · next hlt =>
      refine Or.inr ⟨rfl, alookup_ainsert_self, fun i' h => mem_ainsert_self h, ?_⟩
      intro i' hi'; rw [hi] at hi'; cases hi'; exact hlt
    · next hlt => exact Or.inl ⟨rfl, i, hi, Nat.le_of_not_lt hlt⟩
  · next hnone =>
    refine Or.inr ⟨rfl, alookup_ainsert_self, fun i' h => mem_ainsert_self h, ?_⟩
    intro i' hi'; rw [hnone] at hi'; cases hi'

section cases
variable {n : Node} {x : Name} {m : Member} {lt : Nat}

theorem hli_unknown (p : Bool) (w : Nat) (hm : alookup n.members x = none) :
    handleLeaveIntent n x lt p w =
      ({ n with clock := witness n.clock lt, intents := (upsertIntent n.intents x true lt w).1 },
       { rebroadcast := (upsertIntent n.intents x true lt w).2 }) := by
  simp only [handleLeaveIntent, hm]

theorem hli_stale (p : Bool) (w : Nat) (hm : alookup n.members x = some m) (h : lt ≤ m.ltime) :
    handleLeaveIntent n x lt p w = ({ n with clock := witness n.clock lt }, {}) := by
  simp only [handleLeaveIntent, hm, if_pos h]

theorem hli_refute (p : Bool) (w : Nat) (hm : alookup n.members n.name = some m) (h : m.ltime < lt)
    (hl : n.life = .alive) :
    handleLeaveIntent n n.name lt p w =
      ({ n with clock := witness n.clock lt, pending := n.pending ++ [witness n.clock lt] }, {}) := by
  simp only [handleLeaveIntent, hm, if_neg (Nat.not_le.mpr h), hl, and_self, if_true]

/-- The three status arms of the Go code differ only in `afterLeave` and in a failed member moving to
the left list.  With prune the member is erased: it is leaving or left by then, so `handlePrune`
always takes it off the left list. -/
theorem hli_newer (p : Bool) (w : Nat) (hm : alookup n.members x = some m) (h : m.ltime < lt)
    (hs : ¬ (x = n.name ∧ n.life = .alive)) :
    handleLeaveIntent n x lt p w =
      ({ n with clock := witness n.clock lt,
                members := if p then aerase n.members x else ainsert n.members x (leaveUpd lt m),
                failed := if m.status = .failed then removeOld n.failed x else n.failed,
                left := if p then removeOld (if m.status = .failed then n.left ++ [x] else n.left) x
                        else if m.status = .failed then n.left ++ [x] else n.left },
       { events := (if m.status = .failed then [(.leave, x)] else []) ++ (if p then [(.reap, x)] else []),
         rebroadcast := true }) := by
  simp only [handleLeaveIntent, hm, if_neg (Nat.not_le.mpr h), if_neg hs, leaveUpd_of_lt h]
  cases p
  · cases hst : m.status <;> simp [afterLeave]
  · -- `handlePrune` reads the status just written and erases the record just inserted
    cases hst : m.status <;> simp [handlePrune, eraseNode, statusOf, alookup_ainsert_self, aerase_ainsert]

theorem hji_unknown (w : Nat) (hm : alookup n.members x = none) :
    handleJoinIntent n x lt w =
      ({ n with clock := witness n.clock lt, intents := (upsertIntent n.intents x false lt w).1 },
       { rebroadcast := (upsertIntent n.intents x false lt w).2 }) := by
  simp only [handleJoinIntent, hm]

theorem hji_stale (w : Nat) (hm : alookup n.members x = some m) (h : lt ≤ m.ltime) :
    handleJoinIntent n x lt w = ({ n with clock := witness n.clock lt }, {}) := by
  simp only [handleJoinIntent, hm, if_pos h]

theorem hji_newer (w : Nat) (hm : alookup n.members x = some m) (h : m.ltime < lt) :
    handleJoinIntent n x lt w =
      ({ n with clock := witness n.clock lt, members := ainsert n.members x (joinUpd lt m) },
       { rebroadcast := true }) := by
  simp only [handleJoinIntent, hm, if_neg (Nat.not_le.mpr h), joinUpd_of_lt h]

end cases

theorem hli_ind {C : Node × Out → Prop} (n : Node) (x : Name) (lt : Nat) (p : Bool) (w : Nat)
    (unknown : alookup n.members x = none →
      C ({ n with clock := witness n.clock lt, intents := (upsertIntent n.intents x true lt w).1 },
         { rebroadcast := (upsertIntent n.intents x true lt w).2 }))
    (stale : ∀ m, alookup n.members x = some m → lt ≤ m.ltime → C ({ n with clock := witness n.clock lt }, {}))
    (refute : ∀ m, alookup n.members x = some m → m.ltime < lt → x = n.name → n.life = .alive →
      C ({ n with clock := witness n.clock lt, pending := n.pending ++ [witness n.clock lt] }, {}))
    (newer : ∀ m, alookup n.members x = some m → m.ltime < lt → ¬ (x = n.name ∧ n.life = .alive) →
      C ({ n with clock := witness n.clock lt,
                  members := if p then aerase n.members x else ainsert n.members x (leaveUpd lt m),
                  failed := if m.status = .failed then removeOld n.failed x else n.failed,
                  left := if p then removeOld (if m.status = .failed then n.left ++ [x] else n.left) x
                          else if m.status = .failed then n.left ++ [x] else n.left },
         { events := (if m.status = .failed then [(.leave, x)] else []) ++ (if p then [(.reap, x)] else []),
           rebroadcast := true })) :
    C (handleLeaveIntent n x lt p w) := by
  cases hm : alookup n.members x with
  | none => rw [hli_unknown p w hm]; exact unknown hm
  | some m =>
    by_cases hle : lt ≤ m.ltime
    · rw [hli_stale p w hm hle]; exact stale m hm hle
    · have hlt := Nat.lt_of_not_le hle
      by_cases hs : x = n.name ∧ n.life = .alive
      · obtain ⟨rfl, hl⟩ := hs
        rw [hli_refute p w hm hlt hl]; exact refute m hm hlt rfl hl
      · rw [hli_newer p w hm hlt hs]; exact newer m hm hlt hs

theorem hji_ind {C : Node × Out → Prop} (n : Node) (x : Name) (lt w : Nat)
    (unknown : alookup n.members x = none →
      C ({ n with clock := witness n.clock lt, intents := (upsertIntent n.intents x false lt w).1 },
         { rebroadcast := (upsertIntent n.intents x false lt w).2 }))
    (stale : ∀ m, alookup n.members x = some m → lt ≤ m.ltime → C ({ n with clock := witness n.clock lt }, {}))
    (newer : ∀ m, alookup n.members x = some m → m.ltime < lt →
      C ({ n with clock := witness n.clock lt, members := ainsert n.members x (joinUpd lt m) },
         { rebroadcast := true })) :
    C (handleJoinIntent n x lt w) := by
  cases hm : alookup n.members x with
  | none => rw [hji_unknown w hm]; exact unknown hm
  | some m =>
    by_cases hle : lt ≤ m.ltime
    · rw [hji_stale w hm hle]; exact stale m hm hle
    · rw [hji_newer w hm (Nat.lt_of_not_le hle)]; exact newer m hm (Nat.lt_of_not_le hle)

theorem hnj_ind {C : Node × Out → Prop} (n : Node) (x : Name)
    (new : alookup n.members x = none →
      C ({ n with members := ainsert n.members x (newRec (alookup n.intents x)) }, { events := [(.join, x)] }))
    (known : ∀ m, alookup n.members x = some m →
      C ({ n with members := ainsert n.members x { m with status := .alive, leaveTime := 0 },
                  failed := if m.status = .failed ∨ m.status = .left then removeOld n.failed x else n.failed,
                  left := if m.status = .failed ∨ m.status = .left then removeOld n.left x else n.left },
         { events := [(.join, x)] })) :
    C (handleNodeJoin n x) := by
  cases hm : alookup n.members x with
  | none =>
    simp only [handleNodeJoin, hm]
    exact new hm
  | some m =>
    have h := known m hm
    simp only [handleNodeJoin, hm]
    split
    · next hc => rw [if_pos hc, if_pos hc] at h; exact h
    · next hc => rw [if_neg hc, if_neg hc] at h; exact h

theorem hnl_ind {C : Node × Out → Prop} (n : Node) (x : Name) (a : Nat)
    (idle : (∀ m, alookup n.members x = some m → m.status ≠ .leaving ∧ m.status ≠ .alive) → C (n, {}))
    (leaving : ∀ m, alookup n.members x = some m → m.status = .leaving →
      C ({ n with members := ainsert n.members x { m with status := .left, leaveTime := a },
                  left := n.left ++ [x] },
         { events := [(.leave, x)] }))
    (alive : ∀ m, alookup n.members x = some m → m.status = .alive →
      C ({ n with members := ainsert n.members x { m with status := .failed, leaveTime := a },
                  failed := n.failed ++ [x] },
         { events := [(.failed, x)] })) :
    C (handleNodeLeave n x a) := by
  unfold handleNodeLeave
  split
  · next hm => exact idle (fun m h => by rw [hm] at h; cases h)
  · next m hm =>
    split
    · next hs => exact leaving m hm hs
    · next hs => exact alive m hm hs
    · next h1 h2 => exact idle (fun m' h => by rw [hm] at h; cases h; exact ⟨h1, h2⟩)

theorem hli_name (n : Node) (x : Name) (lt : Nat) (p : Bool) (w : Nat) :
    (handleLeaveIntent n x lt p w).1.name = n.name :=
  hli_ind (C := fun r => r.1.name = n.name) n x lt p w (fun _ => rfl) (fun _ _ _ => rfl) (fun _ _ _ _ _ => rfl)
    (fun _ _ _ _ => rfl)

theorem hli_lookup_ne (n : Node) (x : Name) (lt : Nat) (p : Bool) (w : Nat) (y : Name) (hy : y ≠ x) :
    alookup (handleLeaveIntent n x lt p w).1.members y = alookup n.members y := by
  refine hli_ind (C := fun r => alookup r.1.members y = alookup n.members y) n x lt p w (fun _ => rfl)
    (fun _ _ _ => rfl) (fun _ _ _ _ _ => rfl) (fun m _ _ _ => ?_)
  cases p
  · exact alookup_ainsert_ne hy
  · exact alookup_aerase_ne hy

theorem hli_intents (n : Node) (x : Name) (lt : Nat) (p : Bool) (w : Nat) :
    (handleLeaveIntent n x lt p w).1.intents =
      match alookup n.members x with
      | none => (upsertIntent n.intents x true lt w).1
      | some _ => n.intents := by
  refine hli_ind (C := fun r => r.1.intents = _) n x lt p w ?_ ?_ ?_ ?_
  · intro h; rw [h]
  · intro m h _; rw [h]
  · intro m h _ _ _; rw [h]
  · intro m h _ _; rw [h]

theorem hli_rec (n : Node) (x : Name) (lt : Nat) (p : Bool) (w : Nat) :
    alookup (handleLeaveIntent n x lt p w).1.members x =
      if x = n.name ∧ n.life = .alive then alookup n.members x
      else (alookup n.members x).bind fun m => if p ∧ m.ltime < lt then none else some (leaveUpd lt m) := by
  refine hli_ind (C := fun r => alookup r.1.members x = _) n x lt p w ?_ ?_ ?_ ?_
  · intro h; simp only [h, Option.bind_none, ite_self]
  · intro m h hle; simp [h, leaveUpd_of_le hle, Nat.not_lt.mpr hle]
  · intro m _ _ hx hl; rw [if_pos ⟨hx, hl⟩]
  · intro m h hlt hs
    cases p
    · simp [h, hs, alookup_ainsert_self]
    · simp [h, hs, hlt, alookup_aerase_self]

theorem hli_rec_other (n : Node) (x : Name) (lt w : Nat) (h : ¬ (x = n.name ∧ n.life = .alive)) :
    alookup (handleLeaveIntent n x lt false w).1.members x = (alookup n.members x).map (leaveUpd lt) := by
  rw [hli_rec, if_neg h]
  cases alookup n.members x <;> simp

theorem hli_rec_cases (n : Node) (x : Name) (lt : Nat) (p : Bool) (w : Nat) (m' : Member)
    (h : alookup (handleLeaveIntent n x lt p w).1.members x = some m') :
    ∃ m, alookup n.members x = some m ∧ (m' = m ∨ m' = leaveUpd lt m) := by
  refine hli_ind (C := fun r => alookup r.1.members x = some m' → _) n x lt p w ?_ ?_ ?_ ?_ h
  · intro hm e; rw [hm] at e; cases e
  · intro m _ _ e; exact ⟨m', e, Or.inl rfl⟩
  · intro m _ _ _ _ e; exact ⟨m', e, Or.inl rfl⟩
  · intro m hm _ _ e
    cases p
    · exact ⟨m, hm, Or.inr (Option.some.inj (alookup_ainsert_self.symm.trans e)).symm⟩
    · rw [if_pos rfl, alookup_aerase_self] at e; cases e

theorem hji_pending (n : Node) (x : Name) (lt w : Nat) : (handleJoinIntent n x lt w).1.pending = n.pending :=
  hji_ind (C := fun r => r.1.pending = n.pending) n x lt w (fun _ => rfl) (fun _ _ _ => rfl) (fun _ _ _ => rfl)

theorem hji_lookup_ne (n : Node) (x : Name) (lt w : Nat) (y : Name) (hy : y ≠ x) :
    alookup (handleJoinIntent n x lt w).1.members y = alookup n.members y :=
  hji_ind (C := fun r => alookup r.1.members y = alookup n.members y) n x lt w (fun _ => rfl) (fun _ _ _ => rfl)
    (fun _ _ _ => alookup_ainsert_ne hy)

theorem hji_intents (n : Node) (x : Name) (lt w : Nat) :
    (handleJoinIntent n x lt w).1.intents =
      match alookup n.members x with
      | none => (upsertIntent n.intents x false lt w).1
      | some _ => n.intents := by
  refine hji_ind (C := fun r => r.1.intents = _) n x lt w ?_ ?_ ?_
  · intro h; rw [h]
  · intro m h _; rw [h]
  · intro m h _; rw [h]

theorem hji_rec (n : Node) (x : Name) (lt w : Nat) :
    alookup (handleJoinIntent n x lt w).1.members x = (alookup n.members x).map (joinUpd lt) := by
  refine hji_ind (C := fun r => alookup r.1.members x = _) n x lt w ?_ ?_ ?_
  · intro h; rw [h]; rfl
  · intro m h hle; rw [h, Option.map_some, joinUpd_of_le hle]
  · intro m h _; rw [h]; exact alookup_ainsert_self

/-- What the proofs need of the fields memberlist's two notifications leave alone (they write the member map
and the two reaper lists, nothing else). -/
structure BookOnly (n n' : Node) : Prop where
  name : n'.name = n.name
  life : n'.life = n.life
  intents : n'.intents = n.intents
  pending : n'.pending = n.pending

theorem hnj_bookOnly (n : Node) (x : Name) : BookOnly n (handleNodeJoin n x).1 :=
  hnj_ind (C := fun r => BookOnly n r.1) n x (fun _ => ⟨rfl, rfl, rfl, rfl⟩) (fun _ _ => ⟨rfl, rfl, rfl, rfl⟩)

theorem hnj_lookup_ne (n : Node) (x y : Name) (hy : y ≠ x) :
    alookup (handleNodeJoin n x).1.members y = alookup n.members y :=
  hnj_ind (C := fun r => alookup r.1.members y = alookup n.members y) n x
    (fun _ => alookup_ainsert_ne hy) (fun _ _ => alookup_ainsert_ne hy)

theorem hnj_rec (n : Node) (x : Name) :
    alookup (handleNodeJoin n x).1.members x =
      match alookup n.members x with
      | none => some (newRec (alookup n.intents x))
      | some m => some { m with status := .alive, leaveTime := 0 } := by
  refine hnj_ind (C := fun r => alookup r.1.members x = _) n x ?_ ?_
  · intro h; rw [h]; exact alookup_ainsert_self
  · intro m h; rw [h]; exact alookup_ainsert_self

theorem hnl_bookOnly (n : Node) (x : Name) (a : Nat) : BookOnly n (handleNodeLeave n x a).1 :=
  hnl_ind (C := fun r => BookOnly n r.1) n x a (fun _ => ⟨rfl, rfl, rfl, rfl⟩) (fun _ _ _ => ⟨rfl, rfl, rfl, rfl⟩)
    (fun _ _ _ => ⟨rfl, rfl, rfl, rfl⟩)

theorem hnl_lookup_ne (n : Node) (x : Name) (a : Nat) (y : Name) (hy : y ≠ x) :
    alookup (handleNodeLeave n x a).1.members y = alookup n.members y :=
  hnl_ind (C := fun r => alookup r.1.members y = alookup n.members y) n x a (fun _ => rfl)
    (fun _ _ _ => alookup_ainsert_ne hy) (fun _ _ _ => alookup_ainsert_ne hy)

theorem hnl_rec (n : Node) (x : Name) (a : Nat) :
    alookup (handleNodeLeave n x a).1.members x = (alookup n.members x).map (downUpd a) := by
  refine hnl_ind (C := fun r => alookup r.1.members x = _) n x a ?_ ?_ ?_
  · intro h
    cases hm : alookup n.members x with
    | none => rfl
    | some m => rw [Option.map_some, downUpd_of_down (h m hm).1 (h m hm).2]
  · intro m h hs; rw [h]; simp [downUpd, hs, alookup_ainsert_self]
  · intro m h hs; rw [h]; simp [downUpd, hs, alookup_ainsert_self]

theorem alookup_eraseAll (ms : List (Name × Member)) (xs : List Name) (y : Name) :
    alookup (eraseAll ms xs) y = if y ∈ xs then none else alookup ms y := by
  induction xs generalizing ms with
  | nil => simp [eraseAll]
  | cons x xs ih =>
    simp only [eraseAll, ih, List.mem_cons]
    by_cases hy : y ∈ xs
    · simp [hy]
    · by_cases hx : y = x
      · subst hx; simp [alookup_aerase_self]
      · simp [hy, hx, alookup_aerase_ne hx]

/-- The names the failed-list pass of `reap` erases. -/
def reapedFailed (n : Node) (now : Nat) (ov : Name → Nat → Nat) : List Name :=
  (reapList n.members n.failed now ov n.cfg.reconnect).2

/-- The names the left-list pass of `reap` erases (it reads the map left by the first pass). -/
def reapedLeft (n : Node) (now : Nat) (ov : Name → Nat → Nat) : List Name :=
  (reapList (eraseAll n.members (reapedFailed n now ov)) n.left now ov n.cfg.tombstone).2

theorem reap_members_eq (n : Node) (now : Nat) (ov : Name → Nat → Nat) :
    (reap n now ov).1.members = eraseAll (eraseAll n.members (reapedFailed n now ov)) (reapedLeft n now ov) := rfl

theorem reap_alookup (n : Node) (now : Nat) (ov : Name → Nat → Nat) (x : Name) :
    alookup (reap n now ov).1.members x =
      if x ∈ reapedFailed n now ov ++ reapedLeft n now ov then none else alookup n.members x := by
  rw [reap_members_eq, alookup_eraseAll, alookup_eraseAll]
  by_cases h2 : x ∈ reapedLeft n now ov
  · simp [h2]
  · by_cases h1 : x ∈ reapedFailed n now ov <;> simp [h1, h2]

/-- A join or leave intent as the node applies it: received by gossip, made up by a merge, or the
node's own. -/
inductive Claim where
  | leave (x : Name) (lt : Nat) (prune : Bool) (wall : Nat)
  | join (x : Name) (lt : Nat) (wall : Nat)

def Claim.run (n : Node) : Claim → Node
  | .leave x lt p w => (handleLeaveIntent n x lt p w).1
  | .join x lt w => (handleJoinIntent n x lt w).1

def Claim.subject : Claim → Name
  | .leave x .. => x
  | .join x .. => x

/-- An op as its own state change followed by the intents it applies, in order.  The leave claim a
merge makes up for a member the remote side lists as left carries `StatusLTimes[name] + 1` (uint64);
`NodeSelf.mergeStart` and `NodeSelf.mergeClaim` name the start node and that time for the statements of C03. -/
def parts (n : Node) : Op → Node × List Claim
  | .nodeJoin x => ((handleNodeJoin n x).1, [])
  | .nodeLeave x a => ((handleNodeLeave n x a).1, [])
  | .reap now ov => ((reap n now ov).1, [])
  | .nodeUpdate _ => (n, [])
  | .leaveEnd => (leaveEnd n, [])
  | .shutdown => ({ n with life := .shutdown }, [])
  | .joinMsg x lt w => (n, [.join x lt w])
  | .leaveMsg x lt p w => (n, [.leave x lt p w])
  | .merge lt st lf w =>
    (if 0 < lt then { n with clock := witness n.clock (lt - 1) } else n,
     lf.map (fun x => .leave x ((((alookup st x).getD 0) + 1) % two64) false w) ++
       (st.filter (fun q => q.1 ∉ lf)).map (fun q => .join q.1 q.2 w))
  | .forceLeave x p w => ({ n with clock := (n.clock + 1) % two64 }, [.leave x n.clock p w])
  | .ownJoin w => ({ n with clock := witness n.clock n.clock }, [.join n.name n.clock w])
  | .leaveBegin w =>
    if n.life ≠ .alive then (n, [])
    else ({ n with life := .leaving, clock := (n.clock + 1) % two64 }, [.leave n.name n.clock false w])
  | .runPending w =>
    match n.pending with
    | [] => (n, [])
    | t :: rest => ({ n with pending := rest, clock := witness n.clock t }, [.join n.name t w])

theorem mergeLefts_eq_foldl (st : List (Name × Nat)) (w : Nat) (xs : List Name) (n : Node) :
    (mergeLefts n st w xs).1 =
      (xs.map fun x => Claim.leave x ((((alookup st x).getD 0) + 1) % two64) false w).foldl Claim.run n := by
  induction xs generalizing n with
  | nil => rfl
  | cons x xs ih => exact ih _

theorem mergeJoins_eq_foldl (lf : List Name) (w : Nat) (st : List (Name × Nat)) (n : Node) :
    mergeJoins n lf w st = ((st.filter fun q => q.1 ∉ lf).map fun q => Claim.join q.1 q.2 w).foldl Claim.run n := by
  induction st generalizing n with
  | nil => rfl
  | cons q st ih =>
    obtain ⟨x, t⟩ := q
    by_cases hx : x ∈ lf
    · simpa [mergeJoins, hx] using ih n
    · simpa [mergeJoins, hx, Claim.run] using ih _

theorem step_eq (n : Node) (op : Op) : (step n op).1 = (parts n op).2.foldl Claim.run (parts n op).1 := by
  cases op with
  | merge lt st lf w =>
    simp only [step, merge, parts, List.foldl_append, mergeJoins_eq_foldl, mergeLefts_eq_foldl]
  | leaveBegin w =>
    simp only [step, leaveBegin, parts]
    split <;> rfl
  | runPending w =>
    cases hp : n.pending with
    | nil => simp only [step, runPending, parts, hp, List.foldl_nil]
    | cons t rest => simp only [step, runPending, parts, hp]; rfl
  | nodeUpdate x =>
    simp only [step, handleNodeUpdate, parts]
    split <;> rfl
  | _ => rfl

/-- `n'` is `n` up to clock, life and pending refutations. -/
structure Same (n n' : Node) : Prop where
  name : n'.name = n.name
  cfg : n'.cfg = n.cfg
  members : n'.members = n.members
  failed : n'.failed = n.failed
  left : n'.left = n.left
  intents : n'.intents = n.intents

/-- Memberlist's two notifications and the reaper: the ops that write or erase records themselves. -/
def direct : Op → Bool
  | .nodeJoin _ | .nodeLeave _ _ | .reap _ _ => true
  | _ => false

theorem parts_same (n : Node) (op : Op) (h : direct op = false) : Same n (parts n op).1 := by
  cases op with
  | nodeJoin x => cases h
  | nodeLeave x a => cases h
  | reap now ov => cases h
  | merge lt st lf w =>
    simp only [parts]
    split <;> exact ⟨rfl, rfl, rfl, rfl, rfl, rfl⟩
  | leaveBegin w =>
    simp only [parts]
    split <;> exact ⟨rfl, rfl, rfl, rfl, rfl, rfl⟩
  | leaveEnd =>
    simp only [parts, leaveEnd]
    split <;> exact ⟨rfl, rfl, rfl, rfl, rfl, rfl⟩
  | runPending w =>
    simp only [parts]
    split <;> exact ⟨rfl, rfl, rfl, rfl, rfl, rfl⟩
  | _ => exact ⟨rfl, rfl, rfl, rfl, rfl, rfl⟩

/-- To show `C` of the node after an op, for a `C` that does not read clock, life or pending:
memberlist's two notifications and the reaper one by one, and every intent the op applies keeps `C`. -/
theorem step_ind {C : Node → Prop} (n : Node) (op : Op)
    (same : ∀ n', Same n n' → C n')
    (up : ∀ x, op = .nodeJoin x → C (handleNodeJoin n x).1)
    (down : ∀ x a, op = .nodeLeave x a → C (handleNodeLeave n x a).1)
    (tick : ∀ now ov, op = .reap now ov → C (reap n now ov).1)
    (claim : ∀ c ∈ (parts n op).2, ∀ m, C m → C (c.run m)) : C (step n op).1 := by
  rw [step_eq]
  refine List.foldlRecOn _ _ ?_ fun m hm c hc => claim c hc m hm
  cases op with
  | nodeJoin x => exact up x rfl
  | nodeLeave x a => exact down x a rfl
  | reap now ov => exact tick now ov rfl
  | _ => exact same _ (parts_same n _ rfl)

theorem Claim.run_name (c : Claim) (n : Node) : (c.run n).name = n.name := by
  cases c with
  | leave x lt p w => exact hli_name n x lt p w
  | join x lt w =>
    exact hji_ind (C := fun r => r.1.name = n.name) n x lt w (fun _ => rfl) (fun _ _ _ => rfl) (fun _ _ _ => rfl)

theorem Claim.run_life (c : Claim) (n : Node) : (c.run n).life = n.life := by
  cases c with
  | leave x lt p w =>
    exact hli_ind (C := fun r => r.1.life = n.life) n x lt p w (fun _ => rfl) (fun _ _ _ => rfl)
      (fun _ _ _ _ _ => rfl) (fun _ _ _ _ => rfl)
  | join x lt w =>
    exact hji_ind (C := fun r => r.1.life = n.life) n x lt w (fun _ => rfl) (fun _ _ _ => rfl) (fun _ _ _ => rfl)

theorem Claim.run_pending (c : Claim) (n : Node) : ∃ extra, (c.run n).pending = n.pending ++ extra := by
  cases c with
  | leave x lt p w =>
    exact hli_ind (C := fun r => ∃ extra, r.1.pending = n.pending ++ extra) n x lt p w
      (fun _ => ⟨[], (List.append_nil _).symm⟩) (fun _ _ _ => ⟨[], (List.append_nil _).symm⟩)
      (fun _ _ _ _ _ => ⟨_, rfl⟩) (fun _ _ _ _ => ⟨[], (List.append_nil _).symm⟩)
  | join x lt w => exact ⟨[], by rw [List.append_nil]; exact hji_pending n x lt w⟩

theorem Claim.run_lookup_ne (c : Claim) (n : Node) (y : Name) (hy : y ≠ c.subject) :
    alookup (c.run n).members y = alookup n.members y := by
  cases c with
  | leave x lt p w => exact hli_lookup_ne n x lt p w y hy
  | join x lt w => exact hji_lookup_ne n x lt w y hy

theorem step_name (n : Node) (op : Op) : (step n op).1.name = n.name :=
  step_ind (C := fun m => m.name = n.name) n op (fun _ h => h.name) (fun x _ => (hnj_bookOnly n x).name)
    (fun x a _ => (hnl_bookOnly n x a).name) (fun _ _ _ => rfl) (fun c _ m hm => (c.run_name m).trans hm)

theorem run_append (a b : List Op) : ∀ n : Node, run n (a ++ b) = run (run n a) b := by
  induction a with
  | nil => intro n; rfl
  | cons op a ih => intro n; exact ih _

/-- Every member known afterwards was known before, with a status time at most as large. -/
def Mono (ms ms' : List (Name × Member)) : Prop :=
  ∀ y m', alookup ms' y = some m' → ∃ m, alookup ms y = some m ∧ m.ltime ≤ m'.ltime

theorem Mono.refl {ms : List (Name × Member)} : Mono ms ms :=
  fun _ m' h => ⟨m', h, Nat.le_refl _⟩

theorem Mono.trans {a b c : List (Name × Member)} (h1 : Mono a b) (h2 : Mono b c) : Mono a c := by
  intro y m'' h
  obtain ⟨m', hm', hle'⟩ := h2 y m'' h
  obtain ⟨m, hm, hle⟩ := h1 y m' hm'
  exact ⟨m, hm, Nat.le_trans hle hle'⟩

theorem Mono.known_of_known {n n' : Node} (hm : Mono n.members n'.members) (x : Name)
    (h' : known n' x = true) : known n x = true := by
  obtain ⟨m', hl'⟩ := Option.isSome_iff_exists.mp h'
  obtain ⟨m, hl, _⟩ := hm x m' hl'
  exact known_of_lookup hl

theorem Mono.of_subject {ms ms' : List (Name × Member)} (x : Name)
    (hne : ∀ y, y ≠ x → alookup ms' y = alookup ms y)
    (hx : ∀ m', alookup ms' x = some m' → ∃ m, alookup ms x = some m ∧ m.ltime ≤ m'.ltime) : Mono ms ms' := by
  intro y m' h
  by_cases hy : y = x
  · subst hy; exact hx m' h
  · rw [hne y hy] at h
    exact ⟨m', h, Nat.le_refl _⟩

theorem Mono.of_map {ms ms' : List (Name × Member)} (x : Name) (f : Member → Member)
    (hne : ∀ y, y ≠ x → alookup ms' y = alookup ms y) (hx : alookup ms' x = (alookup ms x).map f)
    (hf : ∀ m, m.ltime ≤ (f m).ltime) : Mono ms ms' := by
  refine Mono.of_subject x hne (fun m' h => ?_)
  obtain ⟨m, hm, rfl⟩ := Option.map_eq_some_iff.mp (hx ▸ h)
  exact ⟨m, hm, hf m⟩

theorem Claim.run_mono (c : Claim) (n : Node) : Mono n.members (c.run n).members := by
  cases c with
  | leave x lt p w =>
    show Mono n.members (handleLeaveIntent n x lt p w).1.members
    refine Mono.of_subject x (hli_lookup_ne n x lt p w) (fun m' h => ?_)
    obtain ⟨m, hm, rfl | rfl⟩ := hli_rec_cases n x lt p w m' h
    · exact ⟨m', hm, Nat.le_refl _⟩
    · exact ⟨m, hm, leaveUpd_ltime_le lt m⟩
  | join x lt w => exact Mono.of_map x _ (hji_lookup_ne n x lt w) (hji_rec n x lt w) (joinUpd_ltime_le lt)

theorem claims_mono (cs : List Claim) (n : Node) : Mono n.members (cs.foldl Claim.run n).members :=
  List.foldlRecOn (motive := fun m => Mono n.members m.members) cs _ Mono.refl fun m hm c _ => hm.trans (c.run_mono m)

theorem mono_eraseAll {ms : List (Name × Member)} {xs : List Name} : Mono ms (eraseAll ms xs) := by
  intro y v hv
  rw [alookup_eraseAll] at hv
  split at hv
  · cases hv
  · exact ⟨v, hv, Nat.le_refl _⟩

theorem mono_step (n : Node) (op : Op) (hop : ∀ z, op ≠ .nodeJoin z) : Mono n.members (step n op).1.members :=
  step_ind (C := fun m => Mono n.members m.members) n op (fun _ h => h.members ▸ Mono.refl)
    (fun x e => absurd e (hop x))
    (fun x a _ => Mono.of_map x _ (hnl_lookup_ne n x a) (hnl_rec n x a) fun m => Nat.le_of_eq (downUpd_ltime a m).symm)
    (fun _ _ _ => mono_eraseAll.trans mono_eraseAll) (fun c _ m hm => hm.trans (c.run_mono m))

theorem step_members (n : Node) (op : Op) (x : Name) :
    (∀ m', alookup (step n op).1.members x = some m' → ∃ m, alookup n.members x = some m ∧ m.ltime ≤ m'.ltime) ∨
    (op = .nodeJoin x ∧ alookup n.members x = none ∧
      alookup (step n op).1.members x = some (newRec (alookup n.intents x))) := by
  by_cases hop : ∀ z, op ≠ .nodeJoin z
  · exact Or.inl (mono_step n op hop x)
  · cases op with
    | nodeJoin z =>
      show (∀ m', alookup (handleNodeJoin n z).1.members x = some m' → _) ∨
        (_ ∧ _ ∧ alookup (handleNodeJoin n z).1.members x = _)
      by_cases hz : x = z
      · subst hz
        rw [hnj_rec]
        cases hm : alookup n.members x with
        | none => exact Or.inr ⟨rfl, rfl, rfl⟩
        | some m => left; intro m' e; cases e; exact ⟨m, rfl, Nat.le_refl _⟩
      · left; intro m' e
        rw [hnj_lookup_ne n z x hz] at e
        exact ⟨m', e, Nat.le_refl _⟩
    | _ => exact absurd (fun z e => by cases e) hop

theorem ltime_mono_step (n : Node) (op : Op) (x : Name) (t t' : Nat)
    (h : ltimeOf n x = some t) (h' : ltimeOf (step n op).1 x = some t') : t ≤ t' := by
  obtain ⟨m, hm, rfl⟩ := ltimeOf_eq_iff.mp h
  obtain ⟨m', hm', rfl⟩ := ltimeOf_eq_iff.mp h'
  rcases step_members n op x with hmono | ⟨_, hnone, _⟩
  · obtain ⟨m0, h0, hle⟩ := hmono m' hm'
    rw [hm] at h0; cases h0; exact hle
  · rw [hm] at hnone; cases hnone

/-- A member becomes known only by memberlist's join notification, and starts with the buffered
intent's time (0 if none). -/
theorem becomes_known_step (n : Node) (op : Op) (x : Name)
    (h : known n x = false) (h' : known (step n op).1 x = true) :
    op = .nodeJoin x ∧ ltimeOf (step n op).1 x = some (((intentOf n x).map (·.ltime)).getD 0) := by
  rcases step_members n op x with hmono | ⟨hop, _, hrec⟩
  · obtain ⟨m', hm'⟩ := Option.isSome_iff_exists.mp h'
    obtain ⟨m, hm, _⟩ := hmono m' hm'
    rw [known_of_lookup hm] at h; cases h
  · exact ⟨hop, by rw [ltimeOf_of_lookup hrec, newRec_ltime]; rfl⟩

end SerfProofs.NodeSteps

namespace SerfProofs.NodeObserver
open SerfModel.Node SerfProofs.NodeSteps

-- Declared in this file (Cluster.lean imports it, not NodeObserver.lean) so that `Cluster.node_name_run` is this proof.
theorem run_name (ops : List Op) : ∀ n : Node, (run n ops).name = n.name := by
  induction ops with
  | nil => intro n; rfl
  | cons op ops ih => intro n; show (run (step n op).1 ops).name = n.name; rw [ih, step_name]

end SerfProofs.NodeObserver

