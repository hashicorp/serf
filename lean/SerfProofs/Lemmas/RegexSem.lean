/-
The executable matcher of `SerfModel.Regex` (`ends`) is sound and complete for the
standard declarative semantics of regular expressions with anchors (`Matches`,
an inductive relation: `Matches r w i j` = `r` matches `w[i..j)`; star is the
reflexive-transitive closure of the body).  In particular the iteration bound of
the star (`|w|+1` rounds of the closure) loses nothing.
-/
import SerfModel.Model.Regex
namespace SerfProofs.Regex
open SerfModel SerfModel.Regex

inductive Matches : Regex → List Char → Nat → Nat → Prop
  | empty (w i) : Matches .empty w i i
  | char (w i c) : w[i]? = some c → Matches (.char c) w i (i + 1)
  | any (w i c) : w[i]? = some c → c ≠ '\n' → Matches .any w i (i + 1)
  | cls (w i c neg rs) : w[i]? = some c → (inRanges rs c != neg) = true → Matches (.cls neg rs) w i (i + 1)
  | cat (r s w i j k) : Matches r w i j → Matches s w j k → Matches (.cat r s) w i k
  | altL (r s w i j) : Matches r w i j → Matches (.alt r s) w i j
  | altR (r s w i j) : Matches s w i j → Matches (.alt r s) w i j
  | starNil (r w i) : Matches (.star r) w i i
  | starStep (r w i j k) : Matches r w i j → Matches (.star r) w j k → Matches (.star r) w i k
  | plus (r w i j k) : Matches r w i j → Matches (.star r) w j k → Matches (.plus r) w i k
  | optNil (r w i) : Matches (.opt r) w i i
  | optSome (r w i j) : Matches r w i j → Matches (.opt r) w i j
  | group (r w i j) : Matches r w i j → Matches (.group r) w i j
  | bot (w) : Matches .bot w 0 0
  | eot (w) : Matches .eot w w.length w.length

theorem mem_union {x : Nat} {a b : List Nat} : x ∈ union a b ↔ x ∈ a ∨ x ∈ b := by
  by_cases hx : x ∈ a
  · simp [union, hx]
  · simp [union, hx]

theorem subset_closure (f : Nat → List Nat) {n S x} (h : x ∈ S) : x ∈ closure f n S := by
  induction n generalizing S with
  | zero => exact h
  | succ n ih => exact ih (mem_union.2 (Or.inl h))

/-- `j = i ∨ …` and not just `j ≤ w.length`: an empty match can sit at any `i`, also beyond the end of the word
(`ends .empty w i = [i]`). -/
theorem Matches.span {r w i j} (h : Matches r w i j) : i ≤ j ∧ (j = i ∨ j ≤ w.length) := by
  induction h with
  | char _ _ _ hc | any _ _ _ hc _ | cls _ _ _ _ _ hc _ =>
    have := (List.getElem?_eq_some_iff.mp hc).1
    omega
  | cat _ _ _ _ _ _ _ _ ih1 ih2 | starStep _ _ _ _ _ _ _ ih1 ih2 | plus _ _ _ _ _ _ _ ih1 ih2 =>
    refine ⟨Nat.le_trans ih1.1 ih2.1, ?_⟩
    rcases ih2.2 with rfl | h
    · exact ih1.2
    · exact Or.inr h
  | altL _ _ _ _ _ _ ih | altR _ _ _ _ _ _ ih | optSome _ _ _ _ _ ih | group _ _ _ _ _ ih => exact ih
  | _ => omega

theorem closure_sound (r : Regex) (w : List Char) (hf : ∀ {a b}, b ∈ ends r w a → Matches r w a b)
    {n S k} (hk : k ∈ closure (fun j => ends r w j) n S) : ∃ s ∈ S, Matches (.star r) w s k := by
  induction n generalizing S with
  | zero => exact ⟨k, hk, .starNil _ _ _⟩
  | succ n ih =>
    obtain ⟨s, hs, hsk⟩ := ih hk
    rcases mem_union.1 hs with h | h
    · exact ⟨s, h, hsk⟩
    · obtain ⟨a, ha, hb⟩ := List.mem_flatMap.1 h
      exact ⟨a, ha, .starStep _ _ _ _ _ (hf hb) hsk⟩

/-- A repetition that makes no progress can be skipped and every other one moves the position
forward inside the word, so `|w| - i + 1` rounds reach everything the star reaches from `i`. -/
theorem closure_complete (r : Regex) (w : List Char) (hc : ∀ {i j}, Matches r w i j → j ∈ ends r w i)
    {i k : Nat} (h : Matches (.star r) w i k) (n : Nat) (S : List Nat)
    (hiS : i ∈ S) (hn : w.length - i < n) : k ∈ closure (fun j => ends r w j) n S := by
  generalize hs : Regex.star r = s at h
  induction h generalizing n S with
  | starNil => exact subset_closure _ hiS
  | starStep r' w i j k hm _ _ ih2 =>
    injection hs with hs; subst hs
    by_cases hji : j = i
    · subst hji; exact ih2 hc n S hiS hn rfl
    · have hle := hm.span.1
      have hjb := hm.span.2.resolve_left hji
      cases n with
      | zero => omega
      | succ n' =>
        refine ih2 hc n' _ ?_ (by omega) rfl
        exact mem_union.2 (Or.inr (List.mem_flatMap.2 ⟨i, hiS, hc hm⟩))
  | _ => cases hs

theorem ends_sound {r : Regex} {w : List Char} {i j : Nat} (h : j ∈ ends r w i) : Matches r w i j := by
  induction r generalizing i j with
  | empty => cases List.mem_singleton.mp h; exact .empty _ _
  | char c =>
    simp only [ends, List.mem_ite_nil_right, List.mem_singleton] at h
    obtain ⟨hc, rfl⟩ := h
    exact .char _ _ _ hc
  | any =>
    cases hc : w[i]? <;> simp [ends, hc] at h
    obtain ⟨hn, rfl⟩ := h
    exact .any _ _ _ hc hn
  | cls neg rs =>
    cases hc : w[i]? <;> simp [ends, hc] at h
    obtain ⟨hr, rfl⟩ := h
    exact .cls _ _ _ _ _ hc (by simpa using hr)
  | cat r s ihr ihs =>
    obtain ⟨m, hm, hj⟩ := List.mem_flatMap.1 h
    exact .cat _ _ _ _ _ _ (ihr hm) (ihs hj)
  | alt r s ihr ihs =>
    rcases mem_union.1 h with h | h
    · exact .altL _ _ _ _ _ (ihr h)
    · exact .altR _ _ _ _ _ (ihs h)
  | star r ih =>
    obtain ⟨s, hs, hm⟩ := closure_sound r w ih h
    cases List.mem_singleton.mp hs
    exact hm
  | plus r ih =>
    obtain ⟨s, hs, hm⟩ := closure_sound r w ih h
    exact .plus _ _ _ s _ (ih hs) hm
  | opt r ih =>
    rcases mem_union.1 h with h | h
    · cases List.mem_singleton.mp h; exact .optNil _ _ _
    · exact .optSome _ _ _ _ (ih h)
  | group r ih => exact .group _ _ _ _ (ih h)
  | bot =>
    simp only [ends, List.mem_ite_nil_right, List.mem_singleton] at h
    obtain ⟨rfl, rfl⟩ := h
    exact .bot _
  | eot =>
    simp only [ends, List.mem_ite_nil_right, List.mem_singleton] at h
    obtain ⟨rfl, rfl⟩ := h
    exact .eot _

theorem ends_complete {r : Regex} {w : List Char} {i j : Nat} (h : Matches r w i j) : j ∈ ends r w i := by
  induction r generalizing i j with
  | empty => cases h; simp [ends]
  | char c => cases h with | char _ _ _ hc => simp [ends, hc]
  | any => cases h with | any _ _ c hc hn => simp [ends, hc, hn]
  | cls neg rs => cases h with | cls _ _ c _ _ hc hr => simp [ends, hc, hr]
  | cat r s ihr ihs => cases h with | cat _ _ _ _ m _ h1 h2 => exact List.mem_flatMap.2 ⟨m, ihr h1, ihs h2⟩
  | alt r s ihr ihs =>
    cases h with
    | altL _ _ _ _ _ h1 => exact mem_union.2 (Or.inl (ihr h1))
    | altR _ _ _ _ _ h1 => exact mem_union.2 (Or.inr (ihs h1))
  | star r ih => exact closure_complete r w ih h _ [i] (List.mem_singleton_self i) (by omega)
  | plus r ih => cases h with | plus _ _ _ m _ h1 h2 => exact closure_complete r w ih h2 _ _ (ih h1) (by omega)
  | opt r ih =>
    cases h with
    | optNil => exact mem_union.2 (Or.inl (List.mem_singleton_self i))
    | optSome _ _ _ _ h1 => exact mem_union.2 (Or.inr (ih h1))
  | group r ih => cases h with | group _ _ _ _ h1 => exact ih h1
  | bot => cases h; simp [ends]
  | eot => cases h; simp [ends]

theorem mem_ends_iff (r : Regex) (w : List Char) (i j : Nat) : j ∈ ends r w i ↔ Matches r w i j :=
  ⟨ends_sound, ends_complete⟩

end SerfProofs.Regex
