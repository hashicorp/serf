/-
Helper lemmas for C23: `streamKeyResp` is a fold of `stepOne` over a prefix of the
replies; what the fold computes; the truncation loop returns the first attempt
that fits.
-/
import SerfModel.Model.KeyAgg
import SerfProofs.Lemmas.Assoc
namespace SerfProofs.KeyAgg
open SerfModel SerfModel.KeyAgg

theorem cnt_inc (m : List (String × Nat)) (k x : String) :
    cnt (inc m k) x = cnt m x + (if k = x then 1 else 0) := by
  unfold cnt inc
  rw [alookup_ainsert]
  by_cases h : k = x
  · simp [h]
  · simp [h, Ne.symm h]

theorem cnt_foldl_inc (keys : List String) (m : List (String × Nat)) (x : String) :
    cnt (keys.foldl inc m) x = cnt m x + keys.count x := by
  induction keys generalizing m with
  | nil => simp
  | cons k ks ih => simp [ih, cnt_inc, List.count_cons, Nat.add_assoc, Nat.add_comm (ks.count x)]

/-- A reply counts as a failure: wrong type / undecodable / `Result = false`. -/
def failed (r : NR) : Bool :=
  match r.payload with
  | .badType => true
  | .undecodable => true
  | .decoded n => !n.result

/-- Number of times reply `r` lists key `k` (0 for replies that do not decode). -/
def holds (k : String) (r : NR) : Nat :=
  match r.payload with
  | .decoded n => n.keys.count k
  | _ => 0

/-- Reply `r` decodes and names `k` as its primary key. -/
def primaryIs (k : String) (r : NR) : Bool :=
  match r.payload with
  | .decoded n => n.primary == k
  | _ => false

/-- The `Messages` entry reply `r` writes for its sender, if any: the two rejection notices, the message of a
failed reply (also an empty one), the non-empty message of a successful reply. -/
def msgOf (r : NR) : Option Msg :=
  match r.payload with
  | .badType => some .invalidType
  | .undecodable => some .decodeFailed
  | .decoded n => if !n.result || decide (n.message.length > 0) then some (.text n.message) else none

theorem stepOne_facts (resp : KeyResponse) (r : NR) :
    (stepOne resp r).numNodes = resp.numNodes ∧
    (stepOne resp r).numResp = resp.numResp + 1 ∧
    (stepOne resp r).numErr = resp.numErr + (if failed r then 1 else 0) ∧
    (∀ k, cnt (stepOne resp r).keys k = cnt resp.keys k + holds k r) ∧
    (∀ k, cnt (stepOne resp r).primary k = cnt resp.primary k + (if primaryIs k r then 1 else 0)) ∧
    (∀ s, alookup (stepOne resp r).messages s =
      if s = r.sender then (msgOf r <|> alookup resp.messages s) else alookup resp.messages s) := by
  unfold stepOne failed holds primaryIs msgOf
  cases r.payload with
  | badType => simp [alookup_ainsert]
  | undecodable => simp [alookup_ainsert]
  | decoded n =>
    obtain ⟨res, msg, ks, p⟩ := n
    cases res <;> by_cases hm : msg.length > 0 <;> simp [hm, alookup_ainsert, cnt_foldl_inc, cnt_inc]

/-- The last message-writing reply of sender `s` in `l`. -/
def lastMsg (l : List NR) (s : String) : Option Msg :=
  ((l.filter (·.sender == s)).filterMap msgOf).getLast?

theorem lastMsg_cons (r : NR) (l : List NR) (s : String) :
    lastMsg (r :: l) s = (lastMsg l s <|> (if s = r.sender then msgOf r else none)) := by
  unfold lastMsg
  by_cases h : s = r.sender
  · cases hm : msgOf r with
    | none => simp [h, hm]
    | some m =>
      simp only [List.filter_cons, h, beq_self_eq_true, ↓reduceIte, List.filterMap_cons, hm, List.getLast?_cons]
      cases (List.filterMap msgOf (List.filter (fun x => x.sender == r.sender) l)).getLast? <;> rfl
  · simp [h, Ne.symm h]

theorem fold_facts (rs : List NR) (resp : KeyResponse) :
    (rs.foldl stepOne resp).numNodes = resp.numNodes ∧
    (rs.foldl stepOne resp).numResp = resp.numResp + rs.length ∧
    (rs.foldl stepOne resp).numErr = resp.numErr + rs.countP failed ∧
    (∀ k, cnt (rs.foldl stepOne resp).keys k = cnt resp.keys k + (rs.map (holds k)).sum) ∧
    (∀ k, cnt (rs.foldl stepOne resp).primary k = cnt resp.primary k + rs.countP (primaryIs k)) ∧
    (∀ s, alookup (rs.foldl stepOne resp).messages s = (lastMsg rs s <|> alookup resp.messages s)) := by
  induction rs generalizing resp with
  | nil => simp [lastMsg]
  | cons r rs ih =>
    obtain ⟨h1, h2, h3, h4, h5, h6⟩ := ih (stepOne resp r)
    obtain ⟨s1, s2, s3, s4, s5, s6⟩ := stepOne_facts resp r
    have hc (a x n : Nat) : a + x + n = a + (n + x) := by omega
    rw [List.foldl_cons]
    refine ⟨h1.trans s1, ?_, ?_, fun k => ?_, fun k => ?_, fun s => ?_⟩
    · rw [h2, s2, List.length_cons, hc]
    · rw [h3, s3, List.countP_cons, hc]
    · rw [h4, s4, List.map_cons, List.sum_cons, hc, Nat.add_comm (holds k r)]
    · rw [h5, s5, List.countP_cons, hc]
    · rw [h6, s6, lastMsg_cons]
      by_cases h : s = r.sender
      · simp only [h, if_true]
        cases lastMsg rs r.sender <;> cases msgOf r <;> rfl
      · simp only [h, if_false]
        cases lastMsg rs s <;> rfl

/-- The replies `streamKeyResp` consumes. -/
def used (numNodes : Nat) (rs : List NR) : List NR :=
  if numNodes = 0 then rs else rs.take numNodes

/-- once `NumResp` has reached `NumNodes` (initially only for `NumNodes = 0`) the loop never returns early -/
theorem streamLoop_of_le (rs : List NR) (resp : KeyResponse) (h : resp.numNodes ≤ resp.numResp) :
    streamLoop resp rs = rs.foldl stepOne resp := by
  induction rs generalizing resp with
  | nil => rfl
  | cons r rs ih =>
    obtain ⟨hn, hr, -⟩ := stepOne_facts resp r
    have hne : (stepOne resp r).numResp ≠ (stepOne resp r).numNodes := by omega
    simp only [streamLoop, beq_iff_eq, hne, if_false, List.foldl_cons]
    exact ih _ (by omega)

theorem streamLoop_of_lt (rs : List NR) (resp : KeyResponse) (d : Nat) (h : resp.numResp + d + 1 = resp.numNodes) :
    streamLoop resp rs = (rs.take (d + 1)).foldl stepOne resp := by
  induction rs generalizing resp d with
  | nil => rfl
  | cons r rs ih =>
    obtain ⟨hn, hr, -⟩ := stepOne_facts resp r
    simp only [streamLoop, beq_iff_eq, List.take_succ_cons, List.foldl_cons]
    cases d with
    | zero => simp [show (stepOne resp r).numResp = (stepOne resp r).numNodes by omega]
    | succ d =>
      rw [if_neg (by omega)]
      exact ih _ d (by omega)

theorem streamKeyResp_eq (numNodes : Nat) (rs : List NR) :
    streamKeyResp numNodes rs = (used numNodes rs).foldl stepOne { numNodes := numNodes } := by
  cases numNodes with
  | zero => exact streamLoop_of_le rs _ (Nat.le_refl 0)
  | succ n => exact streamLoop_of_lt rs _ n (by simp)

theorem keyRequestError_isSome (resp : KeyResponse) :
    (keyRequestError resp).isSome ↔ resp.numErr ≠ 0 ∨ resp.numResp ≠ resp.numNodes := by
  unfold keyRequestError
  by_cases he : resp.numErr = 0 <;> by_cases hn : resp.numResp = resp.numNodes <;> simp [he, hn]

def fits (size : SizeFn) (limit : Nat) (p : Nat × Notice) : Bool := !(size p.1 p.2 > limit)

/-- The head `(shown, notice)` is the attempt in hand; behind it come the prefixes of `i`, …, `1` keys still to try. -/
theorem klLoop_eq (size : SizeFn) (limit : Nat) (i shown : Nat) (notice : Notice) :
    klLoop size limit (i + 1) shown notice =
      match ((shown, notice) :: (List.range i).reverse.map fun j => (j + 1, some (j + 1))).find? (fits size limit) with
      | some p => .ok (size p.1 p.2) p.1 p.2
      | none => .error := by
  induction i generalizing shown notice with
  | zero => by_cases h : size shown notice > limit <;> simp [klLoop, h, fits]
  | succ i ih =>
    rw [klLoop, List.find?_cons]
    by_cases h : size shown notice > limit
    · simp only [h, if_true, fits, decide_true, Bool.not_true]
      rw [ih, List.range_succ, List.reverse_append]
      rfl
    · simp [h, fits]

end SerfProofs.KeyAgg
