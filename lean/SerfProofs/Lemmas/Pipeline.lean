import SerfModel.Model.Pipeline
import SerfProofs.Lemmas.MemberCoalesce
import SerfProofs.Lemmas.CoalesceLoop
/-!
Per member `m`, the sequence received ++ in flight (downstream first) ++ still to emit (`flat m`)
only ever loses elements: one reaction of a stage turns "held ++ taken" into "sent ++ held", a
sublist (`stage_law`), and actions, `stepAt`, steps and schedules inherit that.
-/
namespace SerfProofs.Pipeline
open SerfModel SerfModel.MemberCoalesce SerfModel.UserCoalesce SerfModel.CoalesceLoop SerfModel.Pipeline
open SerfProofs.MemberCoalesce SerfProofs.CoalesceLoop

theorem about_nil (m : String) : about m [] = [] := rfl

theorem about_append (m : String) (a b : List PEv) : about m (a ++ b) = about m a ++ about m b := by
  simp [about, List.filterMap_append]

theorem about_cons (m : String) (e : PEv) (l : List PEv) : about m (e :: l) = about m [e] ++ about m l :=
  about_append m [e] l

theorem about_member (m : String) (e : MEv) : about m [.member e] = if e.name == m then [e] else [] := by
  simp only [about, List.filterMap_cons, List.filterMap_nil]
  cases e.name == m <;> rfl

theorem about_user (m : String) (u : UserEv) : about m [.user u] = [] := rfl
theorem about_query (m : String) (b : Bool) (i : Nat) : about m [.query b i] = [] := rfl

theorem about_map_member (m : String) (l : List MEv) : about m (l.map PEv.member) = l.filter (·.name == m) := by
  rw [about, List.filterMap_map, ← List.filterMap_eq_filter]
  rfl

theorem about_map_user (m : String) (l : List UserEv) : about m (l.map PEv.user) = [] := by
  rw [about, List.filterMap_map]
  exact List.filterMap_eq_nil_iff.mpr fun _ _ => rfl

/-- The member coalescer holds at most one pending event per member; no other stage holds any. -/
def held (m : String) : Stage → List MEv
  | .memberCo s => (alookup s.c.latest m).toList
  | _ => []

/-- All the sublist law asks of a stage: a member coalescer's pending map is keyed by member, each once. -/
def StageOK : Stage → Prop
  | .memberCo s => LatestOK s.c.latest
  | _ => True

/-- The event an input of a stage's `select` takes from its queue, if any. -/
def evOf : In PEv → List PEv
  | .ev e => [e]
  | _ => []

theorem evOf_trigger {t : In PEv} (h : isEv t = false) : evOf t = [] := by
  cases t <;> simp_all [evOf, isEv]

theorem tee_step (i : In PEv) : Stage.tee.step i = (.tee, evOf i) := by
  cases i <;> rfl

/-- The filter consumes internal queries only. -/
theorem filter_step (i : In PEv) (m : String) :
    (Stage.filter.step i).1 = .filter ∧ about m (Stage.filter.step i).2 = about m (evOf i) := by
  rcases i with (_ | _ | ⟨_ | _, _⟩) | _ | _ | _ <;> exact ⟨rfl, rfl⟩

theorem about_absorbed_user {e : PEv} (h : userCoP.handle e = true) (m : String) : about m [e] = [] := by
  cases e with
  | user u => rfl
  | _ => nomatch h

theorem about_passed_member {e : PEv} (h : memberCoP.handle e = false) (m : String) : about m [e] = [] := by
  cases e with
  | member x => nomatch h
  | _ => rfl

theorem memberCoP_absorbs {e : PEv} (h : memberCoP.handle e = true) : ∃ x, e = .member x := by
  cases e with
  | member x => exact ⟨x, rfl⟩
  | _ => nomatch h

/-- What a user coalescer absorbs and what it flushes are user events. -/
theorem userCo_about (s : CoalesceLoop.St userCoP) (i : In PEv) (m : String) :
    about m (CoalesceLoop.step userCoP s i).2 = if s.done then [] else about m (evOf i) := by
  have h := iter userCoP s i
  generalize CoalesceLoop.step userCoP s i = r at h
  cases h with
  | idle _ h => cases i <;> simp_all [enabled, evOf, about_nil]
  | pass e hd hh => simp [hd, evOf]
  | absorb e hd hh => simp [hd, evOf, about_absorbed_user hh, about_nil]
  | flush _ hd ht => simp [hd, evOf_trigger ht, flushNow, userCoP, about_map_user, about_nil]

theorem stage_law (st : Stage) (hok : StageOK st) (i : In PEv) (m : String) :
    (about m (st.step i).2 ++ held m (st.step i).1).Sublist (held m st ++ about m (evOf i)) ∧
    StageOK (st.step i).1 := by
  cases st with
  | tee => simp [tee_step, held, StageOK]
  | filter => simp [filter_step i m, held, StageOK]
  | userCo s =>
    simp only [Stage.step, held, StageOK, List.append_nil, List.nil_append, and_true, userCo_about]
    split
    · exact List.nil_sublist _
    · exact List.Sublist.refl _
  | memberCo s =>
    simp only [Stage.step, held, StageOK]
    have h := iter memberCoP s i
    generalize CoalesceLoop.step memberCoP s i = r at h
    cases h with
    | idle _ h => exact ⟨by simp [about_nil], hok⟩
    | pass e hd hh => exact ⟨by simp [evOf, about_passed_member hh], hok⟩
    | absorb e hd hh =>
      obtain ⟨x, rfl⟩ := memberCoP_absorbs hh
      refine ⟨?_, hok.insert x⟩
      simp only [about_nil, List.nil_append, evOf, memberCoP, alookup_coalesce, about_member]
      split <;> simp
    | flush _ hd ht =>
      simp only [flushNow, memberCoP, flush_latest, alookup_nil, Option.toList_none, List.append_nil,
        about_map_member, flush_filter_name s.c hok, evOf_trigger ht, about_nil]
      exact ⟨List.filter_sublist, LatestOK.nil⟩

/-- An action hands the stage one input of its `select` (the head of its queue, a timer, or — only
the action `shutdown` — the shutdown), or leaves it alone: a take from an empty queue, a drop — which
at the tee removes the head of the queue. -/
theorem act_eq (st : Stage) (q : List PEv) (a : Act) :
    (∃ i q', q = evOf i ++ q' ∧ (isShutdown i = true → a = .shutdown) ∧
      act st q a = ((st.step i).1, q', (st.step i).2)) ∨
    act st q a = (st, q, []) ∨
    (a = .drop ∧ ∃ e q', q = e :: q' ∧ act st q a = (st, q', [])) := by
  cases a with
  | take =>
    cases q with
    | nil => exact .inr (.inl rfl)
    | cons e q' => exact .inl ⟨.ev e, q', rfl, nofun, rfl⟩
  | drop =>
    cases st with
    | tee =>
      cases q with
      | nil => exact .inr (.inl rfl)
      | cons e q' => exact .inr (.inr ⟨rfl, e, q', rfl, rfl⟩)
    | _ => exact .inr (.inl rfl)
  | quantum => exact .inl ⟨.quantum, q, rfl, nofun, rfl⟩
  | quiescent => exact .inl ⟨.quiescent, q, rfl, nofun, rfl⟩
  | shutdown => exact .inl ⟨.shutdown, q, rfl, fun _ => rfl, rfl⟩

/-- one stage's part of the in-flight sequence about `m`: what it holds, then its queue -/
def seg (m : String) (sq : Stage × List PEv) : List MEv := held m sq.1 ++ about m sq.2

def flatS (m : String) : List (Stage × List PEv) → List MEv
  | [] => []
  | sq :: rest => seg m sq ++ flatS m rest

/-- received ++ in flight (downstream first) ++ not yet emitted, about `m` -/
def flat (m : String) (s : Pipe) : List MEv := about m s.recv ++ (flatS m s.stages ++ about m s.todo)

theorem act_law (st : Stage) (q : List PEv) (hok : StageOK st) (a : Act) (m : String) :
    (about m (act st q a).2.2 ++ seg m ((act st q a).1, (act st q a).2.1)).Sublist (seg m (st, q)) ∧
    StageOK (act st q a).1 := by
  rcases act_eq st q a with ⟨i, q', rfl, -, h⟩ | h | ⟨-, e, q', rfl, h⟩ <;> rw [h]
  · obtain ⟨h1, h2⟩ := stage_law st hok i m
    refine ⟨?_, h2⟩
    simp only [seg, about_append]
    rw [← List.append_assoc, ← List.append_assoc]
    exact h1.append (List.Sublist.refl _)
  · exact ⟨List.Sublist.refl _, hok⟩
  · refine ⟨?_, hok⟩
    simp only [seg, about_nil, List.nil_append, about_cons m e q']
    exact (List.sublist_append_right _ _).append_left _

/-! `stepAt`, `pushLast` and so `Pipe.step` change a stage only by letting it act. -/

section Forall
variable {P : Stage → Prop}

theorem forall_stepAt (l : List (Stage × List PEv)) (k : Nat) (a : Act)
    (hact : ∀ st q, P st → P (act st q a).1) (h : ∀ sq ∈ l, P sq.1) : ∀ sq ∈ (stepAt l k a).1, P sq.1 := by
  fun_induction stepAt l k a with
  | case1 => exact h
  | case2 st q rest a =>
    rw [List.forall_mem_cons] at h ⊢
    exact ⟨hact st q h.1, h.2⟩
  | case3 st q rest k a ih =>
    rw [List.forall_mem_cons] at h ⊢
    exact ⟨h.1, ih hact h.2⟩

theorem forall_pushLast (l : List (Stage × List PEv)) (e : PEv) (h : ∀ sq ∈ l, P sq.1) :
    ∀ sq ∈ pushLast l e, P sq.1 := by
  fun_induction pushLast l e with
  | case1 => exact h
  | case2 st q e => simpa using h
  | case3 sq rest e _ ih =>
    rw [List.forall_mem_cons] at h ⊢
    exact ⟨h.1, ih h.2⟩

theorem forall_step {ok : Act → Bool} (hact : ∀ st q a, ok a = true → P st → P (act st q a).1)
    (s : Pipe) (x : Step) (hx : ∀ k a, x = .at k a → ok a = true) (h : ∀ sq ∈ s.stages, P sq.1) :
    ∀ sq ∈ (s.step x).stages, P sq.1 := by
  fun_cases Pipe.step s x with
  | case1 => exact h
  | case2 => exact h
  | case3 e t => exact forall_pushLast _ _ h
  | case4 k a => exact forall_stepAt _ k a (fun st q => hact st q a (hx k a rfl)) h

end Forall

def AllOK (l : List (Stage × List PEv)) : Prop := ∀ sq ∈ l, StageOK sq.1

theorem stepAt_law (l : List (Stage × List PEv)) (k : Nat) (a : Act) (m : String) (hok : AllOK l) :
    (about m (stepAt l k a).2 ++ flatS m (stepAt l k a).1).Sublist (flatS m l) := by
  fun_induction stepAt l k a with
  | case1 => simp [flatS, about_nil]
  | case2 st q rest a =>
    simp only [flatS]
    rw [← List.append_assoc]
    exact (act_law st q (hok (st, q) List.mem_cons_self) a m).1.append (List.Sublist.refl _)
  | case3 st q rest k a ih =>
    simp only [flatS, about_nil, List.nil_append, seg, about_append, List.append_assoc]
    exact ((ih fun x hx => hok x (List.mem_cons_of_mem _ hx)).append_left _).append_left _

theorem pushLast_flat (l : List (Stage × List PEv)) (hne : l ≠ []) (e : PEv) (m : String) :
    flatS m (pushLast l e) = flatS m l ++ about m [e] := by
  fun_induction pushLast l e with
  | case1 => exact absurd rfl hne
  | case2 st q e => simp [flatS, seg, about_append]
  | case3 sq rest e hrest ih => simp only [flatS, List.append_assoc, ih fun h => hrest _ _ rfl h]

/-- A handler's send moves an event from "still to emit" to "in flight" and changes nothing else. -/
theorem emit_flat (s : Pipe) (m : String) : flat m (s.step .emit) = flat m s := by
  simp only [Pipe.step]
  cases ht : s.todo with
  | nil => simp
  | cons e t =>
    by_cases hem : s.stages.isEmpty
    · have : s.stages = [] := by simpa using hem
      simp only [this, List.isEmpty_nil, ↓reduceIte, flat, ht, flatS, List.nil_append, about_append]
      rw [about_cons m e t, List.append_assoc]
    · have hne : s.stages ≠ [] := by simpa using hem
      simp only [hem, Bool.false_eq_true, ↓reduceIte, flat, ht]
      rw [pushLast_flat _ hne, about_cons m e t, List.append_assoc]

theorem at_flat (s : Pipe) (k : Nat) (a : Act) (m : String) : flat m (s.step (.at k a)) =
    about m s.recv ++ ((about m (stepAt s.stages k a).2 ++ flatS m (stepAt s.stages k a).1) ++ about m s.todo) := by
  simp only [Pipe.step, flat, about_append, List.append_assoc]

theorem step_flat (s : Pipe) (hok : AllOK s.stages) (x : Step) (m : String) :
    (flat m (s.step x)).Sublist (flat m s) := by
  cases x with
  | emit => rw [emit_flat]; exact List.Sublist.refl _
  | «at» k a =>
    rw [at_flat]
    exact ((stepAt_law s.stages k a m hok).append (List.Sublist.refl _)).append_left _

theorem run_invariant {I : Pipe → Prop} {ok : Step → Bool} (hstep : ∀ s x, ok x = true → I s → I (s.step x))
    (sched : List Step) (s : Pipe) (hok : sched.all ok = true) (h : I s) : I (sched.foldl Pipe.step s) :=
  List.foldlRecOn sched Pipe.step h fun s hs x hx => hstep s x (List.all_eq_true.mp hok x hx) hs

theorem run_flat (sched : List Step) (s : Pipe) (hok : AllOK s.stages) (m : String) :
    (flat m (sched.foldl Pipe.step s)).Sublist (flat m s) ∧ AllOK (sched.foldl Pipe.step s).stages :=
  run_invariant (I := fun s' => (flat m s').Sublist (flat m s) ∧ AllOK s'.stages) (ok := fun _ => true)
    (fun s' x _ h => ⟨(step_flat s' h.2 x m).trans h.1,
      forall_step (ok := fun _ => true) (fun st q a _ hst => (act_law st q hst a m).2) s' x (fun _ _ _ => rfl) h.2⟩)
    sched s (by simp) ⟨List.Sublist.refl _, hok⟩

theorem seg_idle {sq : Stage × List PEv} (h : stageIdle sq = true) (m : String) : seg m sq = [] := by
  obtain ⟨st, q⟩ := sq
  cases st with
  | memberCo s =>
    simp only [stageIdle, Bool.and_eq_true, List.isEmpty_iff] at h
    simp [seg, held, h.1, h.2, about_nil]
  | _ =>
    simp only [stageIdle, List.isEmpty_iff] at h
    simp [seg, held, h, about_nil]

theorem flatS_idle {l : List (Stage × List PEv)} (h : l.all stageIdle = true) (m : String) : flatS m l = [] := by
  induction l with
  | nil => rfl
  | cons sq rest ih =>
    simp only [List.all_cons, Bool.and_eq_true] at h
    rw [flatS, seg_idle h.1, ih h.2, List.append_nil]

theorem drained_flat {s : Pipe} (h : s.drained = true) (m : String) : flat m s = about m s.recv := by
  simp only [Pipe.drained, Bool.and_eq_true, List.isEmpty_iff] at h
  simp [flat, flatS_idle h.2, h.1, about_nil]

theorem forall_stagesOf {P : Stage × List PEv → Prop} (cfg : Cfg)
    (hm : cfg.memberCoalesce = true → P (.memberCo (CoalesceLoop.init memberCoP), []))
    (hu : P (.userCo (CoalesceLoop.init userCoP), [])) (hf : P (.filter, [])) (ht : P (.tee, [])) :
    ∀ sq ∈ stagesOf cfg, P sq := by
  intro sq hsq
  simp only [stagesOf, List.mem_append, List.mem_ite_nil_right, List.mem_singleton] at hsq
  rcases hsq with ((⟨hc, rfl⟩ | ⟨-, rfl⟩) | rfl) | ⟨-, rfl⟩
  · exact hm hc
  · exact hu
  · exact hf
  · exact ht

theorem stagesOf_idle (cfg : Cfg) : (stagesOf cfg).all stageIdle = true :=
  List.all_eq_true.mpr (forall_stagesOf cfg (fun _ => rfl) rfl rfl rfl)

theorem flat_init (cfg : Cfg) (emitted : List PEv) (m : String) : flat m (initPipe cfg emitted) = about m emitted := by
  simp [flat, initPipe, flatS_idle (stagesOf_idle cfg), about_nil]

theorem stagesOf_ok (cfg : Cfg) : AllOK (stagesOf cfg) :=
  forall_stagesOf cfg (fun _ => LatestOK.nil) trivial trivial trivial

end SerfProofs.Pipeline
