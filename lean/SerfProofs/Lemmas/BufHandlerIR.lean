/-
Helper lemmas for the regenerated tie of `handleUserEvent` / `handleQuery`:
interpreting the IR body shared by both handlers (`front`) is the hand model
`EventBuf.handle`, for every state and message.
-/
import SerfModel.Model.BufHandlerIR
import SerfModel.Model.QueryHandle
import SerfProofs.Lemmas.EventBuf
namespace SerfProofs.BufHandlerIR
open SerfModel.EventBuf SerfModel.BufHandlerIR SerfProofs.EventBuf
open SerfModel.Atomic (W)

variable {α : Type} [DecidableEq α]

theorem exec_retFalseIf (ctx : Ctx) (lt : W) (x : α) (c : Cond) (rest : Body) (env : Env α) :
    exec ctx lt x (.retFalseIf c :: rest) env = if evalC env lt c then (env, false) else exec ctx lt x rest env := by
  cases h : evalC env lt c <;> simp [exec, stepStmt, h]

/-- The part of both handlers up to and including the append. -/
def front (dup : Dup) : Body := [
  .witness .ltime,
  .setCur .clockTime,
  .setIdx (.mod .ltime .lenN),
  .retFalseIf (.lt .ltime .minTime),
  .retFalseIf (.and (.lt .lenN .cur) (.lt .ltime (.sub .cur .lenN))),
  .loadSeen,
  .lookup (.and .seenNotNil (.eq .ltime .seenLTime)) dup (some .ltime) true,
  .append]

/-- The front half leaves unset the two flags the tails only raise (`rebroadcast` is assigned before it is read). -/
def Clean (env : Env α) : Prop := env.delivered = false ∧ env.acked = false

/-- The environment after `seen := buf[idx]` and later statements. -/
def envSeen (b : Buf α) (w : W) (sl : List (Option (W × List α))) (idx : Nat) (seen : Option (W × List α)) : Env α :=
  { buf := { clock := w, minTime := b.minTime, slots := sl }, cur := w, idx := idx, seen := seen, aliased := true }

/-- The environment after the witness and the two pure definitions. -/
def envDefs (b : Buf α) (w : W) (idx : Nat) : Env α :=
  { buf := { clock := w, minTime := b.minTime, slots := b.slots }, cur := w, idx := idx }

theorem tooOld_bool (N : Nat) (w lt : W) :
    tooOld N w lt = ((nW N).ult w && lt.ult (w - nW N)) := by
  simp [tooOld, Bool.decide_and, BitVec.lt_def, BitVec.ult]

attribute [local irreducible] witness

omit [DecidableEq α] in
theorem seenAt_eq_join (slots : List (Option (W × List α))) (idx : Nat) (lt : W) :
    seenAt slots idx lt = match (slots[idx]?).join with | some (t, xs) => if t = lt then xs else [] | none => [] := by
  unfold seenAt; rcases slots[idx]? with _ | _ | ⟨t, xs⟩ <;> rfl

theorem front_spec (dup : Dup) (tail : Body) (ctx : Ctx) (b : Buf α) (lt : W) (x : α) :
    ∃ env' : Env α, env'.buf = (handle b lt x).1 ∧ Clean env' ∧
      exec ctx lt x (front dup ++ tail) { buf := b } =
        if (handle b lt x).2 = .delivered then exec ctx lt x tail env' else (env', false) := by
  -- the witness and the two definitions compute; then the two guards
  show ∃ env' : Env α, _ ∧ _ ∧ exec ctx lt x (.retFalseIf _ :: .retFalseIf _ :: .loadSeen :: .lookup _ dup _ true :: .append :: tail)
    (envDefs b (witness b.clock lt) (slotIdx b.slots.length lt)) = _
  have e1 : evalC (envDefs b (witness b.clock lt) (slotIdx b.slots.length lt)) lt (.lt .ltime .minTime) = decide (lt < b.minTime) := rfl
  have e2 : evalC (envDefs b (witness b.clock lt) (slotIdx b.slots.length lt)) lt (.and (.lt .lenN .cur) (.lt .ltime (.sub .cur .lenN)))
      = tooOld b.slots.length (witness b.clock lt) lt := (tooOld_bool ..).symm
  rw [exec_retFalseIf, exec_retFalseIf, e1, e2, handle_fst]
  have hd := handle_delivered_iff b lt x
  generalize witness b.clock lt = w at *
  generalize slotIdx b.slots.length lt = idx at *
  by_cases h1 : lt < b.minTime
  · exact ⟨envDefs b w idx, by simp [hd, h1, envDefs], ⟨rfl, rfl⟩, by simp [hd, h1]⟩
  by_cases h2 : tooOld b.slots.length w lt = true
  · exact ⟨envDefs b w idx, by simp [hd, h2, envDefs], ⟨rfl, rfl⟩, by simp [hd, h1, h2]⟩
  simp only [h1, h2, decide_false, if_false, Bool.false_eq_true]
  -- `seen := buf[idx]`; a duplicate returns false, anything else is appended to what the slot holds for
  -- this time (nothing, if it is empty or holds another time)
  have hs := seenAt_eq_join b.slots idx lt
  show ∃ env' : Env α, _ ∧ _ ∧ exec ctx lt x (.lookup _ dup _ true :: .append :: tail) (envSeen b w b.slots idx (b.slots[idx]?).join) = _
  have hdel : (handle b lt x).2 = .delivered ↔ x ∉ seenAt b.slots idx lt := by simp [hd, h1, h2]
  by_cases hsame : ∃ xs, (b.slots[idx]?).join = some (lt, xs)
  · obtain ⟨xs, hj⟩ := hsame
    have hxs : seenAt b.slots idx lt = xs := by rw [hs, hj]; exact if_pos rfl
    rw [hj]
    by_cases hx : x ∈ xs
    · exact ⟨envSeen b w b.slots idx (some (lt, xs)), by simp [hdel, hxs, hx, envSeen], ⟨rfl, rfl⟩,
        by simp [exec, stepStmt, evalC, evalE, hdel, hxs, hx, envSeen]⟩
    · exact ⟨envSeen b w (b.slots.set idx (some (lt, xs ++ [x]))) idx (some (lt, xs ++ [x])), by simp [hdel, hxs, hx, envSeen],
        ⟨rfl, rfl⟩, by simp [exec, stepStmt, evalC, evalE, hdel, hxs, hx, envSeen]⟩
  · -- the slot is empty or holds another time: fresh record, stored, appended
    generalize (b.slots[idx]?).join = o at hs hsame
    have hne : ∀ t xs, o = some (t, xs) → t ≠ lt := fun t xs ho ht => hsame ⟨xs, ht ▸ ho⟩
    have hnil : seenAt b.slots idx lt = [] := by
      rw [hs]
      rcases o with _ | ⟨t, xs⟩
      · rfl
      · exact if_neg (hne t xs rfl)
    have hc : evalC (envSeen b w b.slots idx o) lt (.and .seenNotNil (.eq .ltime .seenLTime)) = false := by
      rcases o with _ | ⟨t, xs⟩
      · rfl
      · simpa [evalC, evalE, envSeen] using (hne t xs rfl).symm
    refine ⟨envSeen b w (b.slots.set idx (some (lt, [x]))) idx (some (lt, [x])), ?_, ⟨rfl, rfl⟩, ?_⟩
    · simp [hdel, hnil, envSeen]
    · simp only [exec, stepStmt, hc]
      simp [hdel, hnil, envSeen, evalE, List.set_set]

/-- The user-event handler: the shared front, then deliver and `return true`. -/
def ueBody : Body := front .equalsLoop ++ [.deliver, .ret true]

/-- The query handler: the shared front, then the re-broadcast flag, the filter
test, the ack and the delivery. -/
def queryBody : Body :=
  front .containsItem ++ [.setRebroadcast true, .retRebroadcastIfNotSelected, .ackIf, .deliver, .retRebroadcast]

theorem ueBody_is_handle (ctx : Ctx) (b : Buf α) (lt : W) (x : α) :
    (SerfModel.BufHandlerIR.run ueBody ctx b lt x).1.buf = (handle b lt x).1
    ∧ (SerfModel.BufHandlerIR.run ueBody ctx b lt x).2 = decide ((handle b lt x).2 = .delivered)
    ∧ (SerfModel.BufHandlerIR.run ueBody ctx b lt x).1.delivered = decide ((handle b lt x).2 = .delivered) := by
  obtain ⟨env', hb, ⟨hd, _⟩, he⟩ := front_spec .equalsLoop [.deliver, .ret true] ctx b lt x
  unfold SerfModel.BufHandlerIR.run ueBody
  rw [he]
  by_cases hr : (handle b lt x).2 = .delivered
  · simp [hr, exec, stepStmt, hb]
  · simp [hr, hb, hd]

open SerfModel.QueryHandle in
/-- Interpreting `queryBody` is `QueryHandle.handleQuery`, with the filter verdict,
the ack flag and the no-broadcast flag of the message as context. -/
theorem queryBody_is_handleQuery (re : Oracle) (cfg : NodeCfg) (b : Buf Nat) (q : QueryMsg) :
    let ctx : Ctx := { selected := shouldProcess re cfg q.filters, ackFlag := q.ack, noBroadcast := q.noBroadcast }
    let r := SerfModel.BufHandlerIR.run queryBody ctx b q.lt q.id
    let m := handleQuery re cfg b q
    r.1.buf = m.1 ∧ r.2 = m.2.rebroadcast ∧ r.1.delivered = m.2.delivered ∧ r.1.acked = m.2.acked := by
  intro ctx r m
  obtain ⟨env', hb, ⟨hd, ha⟩, he⟩ := front_spec .containsItem
    [.setRebroadcast true, .retRebroadcastIfNotSelected, .ackIf, .deliver, .retRebroadcast] ctx b q.lt q.id
  have hr : r = if (handle b q.lt q.id).2 = .delivered then
      exec ctx q.lt q.id [.setRebroadcast true, .retRebroadcastIfNotSelected, .ackIf, .deliver, .retRebroadcast] env'
      else (env', false) := he
  have hm : m = handleQuery re cfg b q := rfl
  unfold handleQuery at hm
  by_cases hf : (handle b q.lt q.id).2 = .delivered
  · rw [if_pos hf] at hr
    by_cases hs : shouldProcess re cfg q.filters = true <;> simp [hr, hm, hf, hs, exec, stepStmt, ctx, hb, hd, ha]
  · simp [hr, hm, hf, hb, hd, ha]

end SerfProofs.BufHandlerIR
