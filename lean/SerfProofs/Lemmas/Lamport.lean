/-
The Lamport clock programs translated from serf/lamport.go, under every interleaving: a per-thread
invariant annotating each program point with what is known about the counter, kept by every step
that does not overflow (C06, C19); and the sequential `Witness` in closed form.
-/
import SerfModel.Model.Atomic
import SerfModel.Gen.Lamport
namespace SerfProofs.Lamport
open SerfModel.Atomic SerfModel.Gen

/-- The programs regenerated from `lamport.go`, written out: a regenerated program that differs
fails here first; where `simp` computes with a program (here, C06, C19) it rewrites with these. -/
theorem gen_time : Lamport.time = [.load 0, .ret (some 0)] := rfl
theorem gen_increment : Lamport.increment = [.add 0 1, .ret (some 0)] := rfl
theorem gen_witness :
    Lamport.witness = [.load 0, .arg 1, .retIfLt 1 0, .casPlus 0 1 1 0, .ret none] := rfl

abbrev P : Progs := Lamport.progs

theorem toNat_succ_lt {v : W} (hv : v ≠ BitVec.allOnes 64) : v.toNat + 1 < 2 ^ 64 :=
  Nat.lt_of_le_of_ne v.isLt fun h => hv (BitVec.eq_of_toNat_eq (by rw [BitVec.toNat_allOnes]; omega))

theorem toNat_add_ofNat {a : W} {k : Nat} (h : a.toNat + k < 2 ^ 64) :
    (a + BitVec.ofNat 64 k).toNat = a.toNat + k := by
  rw [BitVec.toNat_add, BitVec.toNat_ofNat, Nat.add_mod_mod, Nat.mod_eq_of_lt h]

theorem toNat_sub_one {a : W} (h : 0 < a.toNat) : (a - 1#64).toNat = a.toNat - 1 :=
  BitVec.toNat_sub_of_le (y := 1#64) h

theorem lt_add_ofNat {a : W} {k : Nat} (hk : 0 < k) (h : a.toNat + k < 2 ^ 64) : a < a + BitVec.ofNat 64 k := by
  rw [BitVec.lt_def, toNat_add_ofNat h]; omega

/-- What is known about an in-progress call, relative to the current counter.  `pc` is the position in
the call's program (`gen_time`, `gen_increment`, `gen_witness`); for `Witness(v)`: 0 `r0 := load`,
1 `r1 := v`, 2 `if r1 < r0 return`, 3 the CAS of `r0` to `r1 + 1` (back to 0 when it fails), 4 return. -/
def FrameInv (c : W) (f : Frame) : Prop :=
  match f.call with
  | .time => (f.pc = 0 ∨ (f.pc = 1 ∧ f.r0 ≤ c) ∨ f.pc ≥ 2)
  | .increment => (f.pc = 0 ∨ (f.pc = 1 ∧ f.r0 ≤ c) ∨ f.pc ≥ 2)
  | .witness v =>
      f.pc = 0 ∨ (f.pc = 1 ∧ f.r0 ≤ c) ∨ (f.pc = 2 ∧ f.r0 ≤ c ∧ f.r1 = v) ∨
      (f.pc = 3 ∧ f.r0 ≤ c ∧ f.r1 = v ∧ ¬ (v < f.r0)) ∨ (f.pc ≥ 4 ∧ v < c)

/-- What is known about a finished call. -/
def DoneInv (c : W) (d : Done) : Prop :=
  match d.call with
  | .witness v => v < c
  | _ => ∀ r, d.result = some r → r ≤ c

def ThreadInv (c : W) (th : Thread) : Prop :=
  (∀ f, th.frame = some f → FrameInv c f) ∧ (∀ d ∈ th.done, DoneInv c d)

/-- Every clause bounds a register or the witnessed value by the counter from above, so a raised
counter (all that another thread's step can do) keeps it. -/
theorem FrameInv.mono {c c' : W} (h : c ≤ c') {f : Frame} (hf : FrameInv c f) : FrameInv c' f := by
  unfold FrameInv at *
  cases hcall : f.call <;> simp only [hcall] at hf ⊢
  case witness v =>
    rcases hf with h0 | ⟨h1, h2⟩ | ⟨h1, h2, h3⟩ | ⟨h1, h2, h3, h4⟩ | ⟨h1, h2⟩
    · exact .inl h0
    · exact .inr (.inl ⟨h1, BitVec.le_trans h2 h⟩)
    · exact .inr (.inr (.inl ⟨h1, BitVec.le_trans h2 h, h3⟩))
    · exact .inr (.inr (.inr (.inl ⟨h1, BitVec.le_trans h2 h, h3, h4⟩)))
    · exact .inr (.inr (.inr (.inr ⟨h1, Nat.lt_of_lt_of_le h2 h⟩)))
  all_goals
    rcases hf with h0 | ⟨h1, h2⟩ | h3
    · exact .inl h0
    · exact .inr (.inl ⟨h1, BitVec.le_trans h2 h⟩)
    · exact .inr (.inr h3)

theorem DoneInv.mono {c c' : W} (h : c ≤ c') {d : Done} (hd : DoneInv c d) : DoneInv c' d := by
  unfold DoneInv at *
  split at hd
  · exact Nat.lt_of_lt_of_le hd h
  · exact fun r hr => BitVec.le_trans (hd r hr) h

theorem ThreadInv.mono {c c' : W} (h : c ≤ c') {th : Thread} (ht : ThreadInv c th) : ThreadInv c' th :=
  ⟨fun f hf => (ht.1 f hf).mono h, fun d hd => (ht.2 d hd).mono h⟩

abbrev thOverflow (c : W) (th : Thread) : Bool := threadOverflow P c th

theorem ThreadInv.frame {c : W} {f : Frame} {t : List Call} {d : List Done}
    (hf : FrameInv c f) (hd : ∀ x ∈ d, DoneInv c x) : ThreadInv c ⟨some f, t, d⟩ :=
  ⟨fun _ h => Option.some.inj h ▸ hf, hd⟩

theorem ThreadInv.ret {c : W} {x : Done} {t : List Call} {d : List Done}
    (hx : DoneInv c x) (hd : ∀ x ∈ d, DoneInv c x) : ThreadInv c ⟨none, t, x :: d⟩ :=
  ⟨(fun _ h => nomatch h), List.forall_mem_cons.2 ⟨hx, hd⟩⟩

/-- In every case below the thread's state is explicit up to the register contents, so `stepThread`
computes and only the facts about the counter are left. -/
theorem stepThread_inv (c : W) (th : Thread) (hinv : ThreadInv c th) (hno : thOverflow c th = false) :
    c ≤ (stepThread P c th).1 ∧ ThreadInv (stepThread P c th).1 (stepThread P c th).2.1 ∧
    (∀ v, (stepThread P c th).2.2 = some v → c < v ∧ v = (stepThread P c th).1) := by
  obtain ⟨frame, todo, done⟩ := th
  have hf : ∀ f, frame = some f → FrameInv c f := hinv.1
  have hd : ∀ d ∈ done, DoneInv c d := hinv.2
  -- a step that leaves the counter alone and returns no increment
  have stay : ∀ {th' : Thread}, ThreadInv c th' →
      c ≤ c ∧ ThreadInv c th' ∧ ∀ v, (none : Option W) = some v → c < v ∧ v = c :=
    fun h => ⟨BitVec.le_refl c, h, fun _ h => nomatch h⟩
  match frame with
  | none =>
    match todo with
    | [] => exact stay hinv
    | .time :: _ | .increment :: _ | .witness _ :: _ => exact stay (.frame (.inl rfl) hd)
  | some ⟨.time, pc, r0, r1⟩ =>
    rcases hf _ rfl with rfl | ⟨rfl, (h : r0 ≤ c)⟩ | (h : pc ≥ 2)
    · exact stay (.frame (.inr (.inl ⟨rfl, BitVec.le_refl c⟩)) hd)           -- r0 := load
    · exact stay (.ret (fun _ hr => Option.some.inj hr ▸ h) hd)               -- return r0
    · obtain ⟨k, rfl⟩ : ∃ k, pc = k + 2 := ⟨pc - 2, by omega⟩
      exact stay (.ret (fun _ h => nomatch h) hd)
  | some ⟨.increment, pc, r0, r1⟩ =>
    rcases hf _ rfl with rfl | ⟨rfl, (h : r0 ≤ c)⟩ | (h : pc ≥ 2)
    · -- r0 := add 1
      have hno : ¬ c.toNat + 1 ≥ 2 ^ 64 := of_decide_eq_false hno
      have hlt : c < c + 1#64 := lt_add_ofNat Nat.one_pos (by omega)
      have hle := BitVec.le_of_lt hlt
      exact ⟨hle, .frame (.inr (.inl ⟨rfl, BitVec.le_refl _⟩)) fun d hd' => (hd d hd').mono hle,
        fun _ hv => Option.some.inj hv ▸ ⟨hlt, rfl⟩⟩
    · exact stay (.ret (fun _ hr => Option.some.inj hr ▸ h) hd)               -- return r0
    · obtain ⟨k, rfl⟩ : ∃ k, pc = k + 2 := ⟨pc - 2, by omega⟩
      exact stay (.ret (fun _ h => nomatch h) hd)
  | some ⟨.witness v, pc, r0, r1⟩ =>
    rcases hf _ rfl with rfl | ⟨rfl, (h : r0 ≤ c)⟩ | ⟨rfl, (h : r0 ≤ c), (rfl : r1 = v)⟩ |
      ⟨rfl, (h : r0 ≤ c), (rfl : r1 = v), (hge : ¬ r1 < r0)⟩ | ⟨(h4 : pc ≥ 4), (h : v < c)⟩
    · exact stay (.frame (.inr (.inl ⟨rfl, BitVec.le_refl c⟩)) hd)            -- r0 := load
    · exact stay (.frame (.inr (.inr (.inl ⟨rfl, h, rfl⟩))) hd)               -- r1 := v
    · -- if r1 < r0 return
      by_cases hlt : r1 < r0
      · have e : stepThread P c ⟨some ⟨.witness r1, 2, r0, r1⟩, todo, done⟩ =
            (c, ⟨none, todo, ⟨.witness r1, none⟩ :: done⟩, none) := by
          simp [stepThread, execInstr, Progs.of, Lamport.progs, gen_witness, Frame.get, hlt]
        rw [e]
        exact stay (.ret (Nat.lt_of_lt_of_le hlt h) hd)
      · have e : stepThread P c ⟨some ⟨.witness r1, 2, r0, r1⟩, todo, done⟩ =
            (c, ⟨some ⟨.witness r1, 3, r0, r1⟩, todo, done⟩, none) := by
          simp [stepThread, execInstr, Progs.of, Lamport.progs, gen_witness, Frame.get, hlt]
        rw [e]
        exact stay (.frame (.inr (.inr (.inr (.inl ⟨rfl, h, rfl, hlt⟩)))) hd)
    · -- if !CAS(r0, r1 + 1) goto 0
      by_cases hc : c = r0
      · subst hc
        have e : stepThread P c ⟨some ⟨.witness r1, 3, c, r1⟩, todo, done⟩ =
            (r1 + 1#64, ⟨some ⟨.witness r1, 4, c, r1⟩, todo, done⟩, none) := by
          simp [stepThread, execInstr, Progs.of, Lamport.progs, gen_witness, Frame.get]
        have hno : ¬ (c = c ∧ r1.toNat + 1 ≥ 2 ^ 64) := of_decide_eq_false hno
        have hlt : r1 < r1 + 1#64 := lt_add_ofNat Nat.one_pos (Nat.lt_of_not_ge fun h => hno ⟨rfl, h⟩)
        have hle : c ≤ r1 + 1#64 := BitVec.le_of_lt (Nat.lt_of_le_of_lt (BitVec.not_lt.1 hge) hlt)
        rw [e]
        exact ⟨hle, .frame (.inr (.inr (.inr (.inr ⟨Nat.le_refl 4, hlt⟩)))) fun d hd' => (hd d hd').mono hle,
          fun _ h => nomatch h⟩
      · have e : stepThread P c ⟨some ⟨.witness r1, 3, r0, r1⟩, todo, done⟩ =
            (c, ⟨some ⟨.witness r1, 0, r0, r1⟩, todo, done⟩, none) := by
          simp [stepThread, execInstr, Progs.of, Lamport.progs, gen_witness, Frame.get, hc]
        rw [e]
        exact stay (.frame (.inl rfl) hd)
    · -- return; past the end
      obtain ⟨k, rfl⟩ : ∃ k, pc = k + 4 := ⟨pc - 4, by omega⟩
      cases k <;> exact stay (.ret h hd)

structure SysInv (s : Sys) : Prop where
  threads : ∀ th ∈ s.threads, ThreadInv s.counter th
  incs_le : ∀ v ∈ s.incs, v ≤ s.counter
  nodup : s.incs.Nodup

theorem SysInv.init (c : W) (calls : List (List Call)) : SysInv (Sys.init c calls) := by
  refine ⟨?_, (fun _ h => nomatch h), List.nodup_nil⟩
  intro th hth
  obtain ⟨cs, _, rfl⟩ := List.mem_map.1 hth
  exact ⟨(fun _ h => nomatch h), (fun _ h => nomatch h)⟩

theorem step_inv (s : Sys) (t : Nat) (hinv : SysInv s) (hno : overflowStep P s t = false) :
    s.counter ≤ (step P s t).counter ∧ SysInv (step P s t) ∧
    ∀ r ∈ (step P s t).incs, r ∈ s.incs ∨ s.counter < r := by
  unfold overflowStep at hno
  cases hth : s.threads[t]? with
  | none =>
    simp only [step, hth]
    exact ⟨BitVec.le_refl _, hinv, fun _ => Or.inl⟩
  | some th =>
    rw [hth] at hno
    have hstep := stepThread_inv s.counter th (hinv.threads th (List.mem_of_getElem? hth)) hno
    rcases hst : stepThread P s.counter th with ⟨c', th', inc⟩
    rw [hst] at hstep
    obtain ⟨hle, hti, hinc⟩ := hstep
    have hthreads : ∀ x ∈ s.threads.set t th', ThreadInv c' x := fun x hx =>
      (List.mem_or_eq_of_mem_set hx).elim (fun h => (hinv.threads x h).mono hle) (· ▸ hti)
    have hold : ∀ v ∈ s.incs, v ≤ c' := fun v hv => BitVec.le_trans (hinv.incs_le v hv) hle
    simp only [step, hth, hst]
    cases inc with
    | none => exact ⟨hle, ⟨hthreads, hold, hinv.nodup⟩, fun _ => Or.inl⟩
    | some w =>
      obtain ⟨hlt, rfl⟩ := hinc w rfl
      refine ⟨hle, ⟨hthreads, List.forall_mem_cons.2 ⟨BitVec.le_refl _, hold⟩, List.nodup_cons.2 ⟨?_, hinv.nodup⟩⟩, ?_⟩
      · exact fun hw => Nat.lt_irrefl _ (Nat.lt_of_lt_of_le hlt (hinv.incs_le _ hw))
      · exact fun r hr => (List.mem_cons.1 hr).elim (fun h => Or.inr (h ▸ hlt)) Or.inl

theorem run_append (p : Progs) (s : Sys) (a b : List Nat) : run p s (a ++ b) = run p (run p s a) b :=
  List.foldl_append

theorem noOverflow_append (p : Progs) (a b : List Nat) : ∀ (s : Sys),
    NoOverflow p s (a ++ b) ↔ NoOverflow p s a ∧ NoOverflow p (run p s a) b := by
  induction a with
  | nil => intro s; exact ⟨fun h => ⟨trivial, h⟩, fun h => h.2⟩
  | cons t rest ih => intro s; exact (and_congr_right fun _ => ih _).trans and_assoc.symm

theorem run_inv (sched : List Nat) : ∀ (s : Sys), SysInv s → NoOverflow P s sched →
    s.counter ≤ (run P s sched).counter ∧ SysInv (run P s sched) ∧
    ∀ r ∈ (run P s sched).incs, r ∈ s.incs ∨ s.counter < r := by
  induction sched with
  | nil => intro s h _; exact ⟨BitVec.le_refl _, h, fun _ => Or.inl⟩
  | cons t rest ih =>
    intro s h hno
    obtain ⟨h1, h2, h3⟩ := step_inv s t h hno.1
    obtain ⟨h4, h5, h6⟩ := ih (step P s t) h2 hno.2
    exact ⟨BitVec.le_trans h1 h4, h5, fun r hr => (h6 r hr).elim (h3 r) fun h => Or.inr (Nat.lt_of_le_of_lt h1 h)⟩

/-- Split on the comparison the program makes before running it, so that `simp` follows one branch only. -/
theorem runSeq_witness (cur v : W) : (runSeq P cur (.witness v)).1 = if v < cur then cur else v + 1#64 := by
  by_cases h : v < cur <;>
    simp [runSeq, Sys.init, run, step, stepThread, execInstr, Progs.of, Lamport.progs, gen_witness,
      Frame.set, Frame.get, Call.argVal, h]

/-- The clock is a join, except at 2^64−1 where `v + 1` wraps. -/
theorem runSeq_witness_toNat (cur v : W) (hv : v ≠ BitVec.allOnes 64) :
    (runSeq P cur (.witness v)).1.toNat = max cur.toNat (v.toNat + 1) := by
  rw [runSeq_witness]
  split
  · next h => exact (Nat.max_eq_left (Nat.succ_le_of_lt h)).symm
  · next h => rw [toNat_add_ofNat (toNat_succ_lt hv)]; exact (Nat.max_eq_right (Nat.le_succ_of_le (BitVec.not_lt.1 h))).symm

end SerfProofs.Lamport
