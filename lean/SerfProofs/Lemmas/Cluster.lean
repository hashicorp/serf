/-
The cluster model (`SerfModel.Cluster`) projected onto its nodes: along any cluster run node `i` is the
single-node `run` of its local history from its initial state (`crun_node`), so every theorem about `run`
holds at every node of every cluster run.  Then, by evaluation, the cluster-level counterexample to full
agreement: a leave claim about a RUNNING member whose gossip copy never reaches that member, but whose
Lamport time does (by push/pull), is never refuted.
-/
import SerfModel.Model.Cluster
import SerfProofs.Lemmas.NodeSteps
namespace SerfProofs.Cluster
open SerfModel SerfModel.Node SerfModel.Cluster SerfProofs.NodeSteps

theorem applyLocal_fst (n : Node) (ops : List Op) : (applyLocal n ops).1 = run n ops := by
  induction ops generalizing n with
  | nil => rfl
  | cons op ops ih => simp only [applyLocal, run]; exact ih _

theorem cstep_node (c : Cluster) (s : CStep) (i : Nat) (n : Node) (h : c.nodes[i]? = some n) :
    (cstep c s).nodes[i]? = some (run n (localOpsOf c s i)) := by
  simp only [cstep, List.getElem?_mapIdx, h, Option.map_some, applyLocal_fst]

theorem crun_node (steps : List CStep) : ∀ (c : Cluster) (i : Nat) (n : Node), c.nodes[i]? = some n →
    (crun c steps).nodes[i]? = some (run n (history c steps i)) := by
  induction steps with
  | nil => intro c i n h; simpa [crun, history, run] using h
  | cons s r ih =>
    intro c i n h
    simp only [crun, history, run_append]
    exact ih _ _ _ (cstep_node c s i n h)

theorem cstep_length (c : Cluster) (s : CStep) : (cstep c s).nodes.length = c.nodes.length := by
  simp [cstep]

theorem crun_length (c : Cluster) (steps : List CStep) : (crun c steps).nodes.length = c.nodes.length := by
  induction steps generalizing c with
  | nil => rfl
  | cons s r ih => simp only [crun]; rw [ih, cstep_length]

theorem init_node (names : List Name) (cfg : Config) (i : Nat) (nm : Name) (h : names[i]? = some nm) :
    (Cluster.init names cfg).nodes[i]? = some (Node.init nm cfg) := by
  simp [Cluster.init, h]

theorem node_name_run (n : Node) (ops : List Op) : (run n ops).name = n.name :=
  NodeObserver.run_name ops n

/-- "w" (0), "x" (1), "y" (2), everybody has been told about everybody. -/
def wxy : Cluster := crun (Cluster.init ["w", "x", "y"])
  [.notify 0 "x" true 0, .notify 0 "y" true 0, .notify 1 "w" true 0, .notify 1 "y" true 0,
   .notify 2 "w" true 0, .notify 2 "x" true 0]

/-- "w" (0) and "x" (1) have been told about each other. -/
def wx : Cluster := crun (Cluster.init ["w", "x"]) [.notify 0 "x" true 0, .notify 1 "w" true 0]

/-- node `i` of a cluster (a dummy node if out of range) -/
def nodeAt (c : Cluster) (i : Nat) : Node := c.nodes[i]?.getD (Node.init "")

/-- The memberlist oracle: a first `down` is ignored, a repeated `up` is ignored, `up` then `down`
is a join then a failure; other observers are not touched. -/
example :
    crun (Cluster.init ["w", "x"]) [.notify 0 "x" false 7] = Cluster.init ["w", "x"] ∧
    crun wx [.notify 0 "x" true 0] = wx ∧
    statusOf (nodeAt (crun wx [.notify 0 "x" false 7]) 0) "x" = some .failed ∧
    (nodeAt (crun wx [.notify 0 "x" false 7]) 0).failed = ["x"] ∧
    nodeAt (crun wx [.notify 0 "x" false 7]) 1 = nodeAt wx 1 ∧
    (crun wx [.notify 0 "x" false 7]).ml = [((0, "x"), false), ((1, "w"), true)] := by decide +kernel

/-- Gossip: a force-leave with another alive member around puts one copy on the wire; a
duplicating delivery to "y" is re-queued by "y" (two copies), a second delivery of the same message
is not re-queued; consuming deliveries and loss empty the wire; indices out of range do nothing. -/
example :
    (crun wxy [.api 0 (.forceLeave "x" false 0)]).flight = [.leave "x" 1 false] ∧
    (crun wxy [.api 0 (.forceLeave "x" false 0), .deliver 2 0 true]).flight
      = [.leave "x" 1 false, .leave "x" 1 false] ∧
    statusOf (nodeAt (crun wxy [.api 0 (.forceLeave "x" false 0), .deliver 2 0 true]) 2) "x" = some .leaving ∧
    (crun wxy [.api 0 (.forceLeave "x" false 0), .deliver 2 0 true, .deliver 2 1 true]).flight
      = [.leave "x" 1 false, .leave "x" 1 false] ∧
    (crun wxy [.api 0 (.forceLeave "x" false 0), .deliver 2 0 true, .deliver 2 1 false, .drop 0]).flight = [] ∧
    crun wxy [.drop 3, .deliver 0 5 false, .deliver 9 0 true, .pushPull 0 0 0, .pushPull 0 7 0,
      .api 4 .shutdown] = wxy := by decide +kernel

/-- The local histories of a run, and (next example) the instance of the projection theorem on it, by evaluation. -/
example :
    history (Cluster.init ["w", "x"])
        [.notify 0 "x" true 0, .notify 1 "w" true 0, .api 0 (.forceLeave "x" false 0), .pushPull 0 1 4] 1
      = [.nodeJoin "w", .merge 2 [("w", 0), ("x", 1)] [] 4] ∧
    history (Cluster.init ["w", "x"])
        [.notify 0 "x" true 0, .notify 1 "w" true 0, .api 0 (.forceLeave "x" false 0), .pushPull 0 1 4] 0
      = [.nodeJoin "x", .forceLeave "x" false 0, .merge 1 [("x", 0), ("w", 0)] [] 4] :=
  ⟨rfl, rfl⟩

example :
    nodeAt (crun (Cluster.init ["w", "x"])
        [.notify 0 "x" true 0, .notify 1 "w" true 0, .api 0 (.forceLeave "x" false 0), .pushPull 0 1 4]) 1
      = run (Node.init "x") [.nodeJoin "w", .merge 2 [("w", 0), ("x", 1)] [] 4] := by decide +kernel

/-- "w" force-leaves the running "x"; the gossip copy (if any) is lost; "w" and "x" push/pull. -/
def claimRun : List CStep := [.api 0 (.forceLeave "x" false 0), .drop 0, .pushPull 0 1 0]

/-- Two nodes.  "w" claims that the RUNNING "x" is leaving (force-leave at Lamport time 1).  With
no other alive member `forceLeave` does not even broadcast, so the only way the claim travels is
push/pull — and `MergeRemoteState` turns the remote status time of a member that is not on the
remote left list into a JOIN intent.  So "x" adopts time 1 as its own status time without ever
seeing a leave claim: nothing is in flight, no refutation is pending, no later join of "x" at a
time ≤ 1 can change "w"'s mind.  "w" lists "x" as `leaving`, "x" lists itself `alive`, both at
time 1, and further push/pulls (in either direction) change NOTHING in the whole cluster. -/
theorem cluster_unrefuted_claim_counterexample :
    -- before: everybody lists everybody as alive at time 0
    statusOf (nodeAt wx 0) "x" = some .alive ∧ ltimeOf (nodeAt wx 0) "x" = some 0 ∧
    statusOf (nodeAt wx 1) "x" = some .alive ∧ ltimeOf (nodeAt wx 1) "x" = some 0 ∧
    -- the claim at "w"; nothing is broadcast
    statusOf (nodeAt (crun wx [.api 0 (.forceLeave "x" false 0)]) 0) "x" = some .leaving ∧
    ltimeOf (nodeAt (crun wx [.api 0 (.forceLeave "x" false 0)]) 0) "x" = some 1 ∧
    (crun wx [.api 0 (.forceLeave "x" false 0)]).flight = [] ∧
    -- after the push/pull: "w" still claims `leaving`@1 …
    statusOf (nodeAt (crun wx claimRun) 0) "x" = some .leaving ∧
    ltimeOf (nodeAt (crun wx claimRun) 0) "x" = some 1 ∧
    -- … "x" is running, lists itself alive, and its own status time ROSE to the claim's time …
    (nodeAt (crun wx claimRun) 1).life = .alive ∧
    statusOf (nodeAt (crun wx claimRun) 1) "x" = some .alive ∧
    ltimeOf (nodeAt (crun wx claimRun) 1) "x" = some 1 ∧
    -- … silently: no refutation spawned anywhere, nothing on the wire
    (nodeAt (crun wx claimRun) 1).pending = [] ∧ (nodeAt (crun wx claimRun) 0).pending = [] ∧
    (crun wx claimRun).flight = [] ∧
    -- and the disagreement is stable under further push/pull
    crun wx (claimRun ++ [.pushPull 0 1 0]) = crun wx claimRun ∧
    crun wx (claimRun ++ [.pushPull 1 0 0, .pushPull 0 1 9]) = crun wx claimRun := by decide +kernel

/-- Three nodes, so that the force-leave IS broadcast (`leave "x" 1`) and the copy is really lost.
After "w"–"x", "w"–"y", "x"–"y" push/pulls: "w" lists "x" as `leaving`, "x" and "y" list it as
`alive`, all three at status time 1; nothing in flight, nothing pending; one more full round of
push/pulls changes nothing. -/
theorem cluster_unrefuted_claim_counterexample_three :
    (crun wxy [.api 0 (.forceLeave "x" false 0)]).flight = [.leave "x" 1 false] ∧
    (crun wxy (claimRun ++ [.pushPull 0 2 0, .pushPull 1 2 0])).flight = [] ∧
    (crun wxy (claimRun ++ [.pushPull 0 2 0, .pushPull 1 2 0])).nodes.map (fun n => (statusOf n "x", ltimeOf n "x", n.pending))
      = [(some .leaving, some 1, []), (some .alive, some 1, []), (some .alive, some 1, [])] ∧
    crun wxy (claimRun ++ [.pushPull 0 2 0, .pushPull 1 2 0] ++ [.pushPull 0 1 0, .pushPull 0 2 0, .pushPull 1 2 0])
      = crun wxy (claimRun ++ [.pushPull 0 2 0, .pushPull 1 2 0]) := by decide +kernel

/-- Contrast: when the gossip copy does reach "x", "x" spawns a refuting join at its witnessed
clock (2 > 1); once that runs and is delivered to "w", everybody who heard it lists "x" as alive
at time 2. -/
theorem cluster_claim_refuted_when_delivered :
    (nodeAt (crun wxy [.api 0 (.forceLeave "x" false 0), .deliver 1 0 false]) 1).pending = [2] ∧
    (crun wxy [.api 0 (.forceLeave "x" false 0), .deliver 1 0 false, .api 1 (.runPending 0)]).flight
      = [.join "x" 2] ∧
    (crun wxy [.api 0 (.forceLeave "x" false 0), .deliver 1 0 false, .api 1 (.runPending 0),
        .deliver 0 0 true, .deliver 2 0 false]).nodes.map (fun n => (statusOf n "x", ltimeOf n "x", n.pending))
      = [(some .alive, some 2, []), (some .alive, some 2, []), (some .alive, some 2, [])] := by decide +kernel

end SerfProofs.Cluster
