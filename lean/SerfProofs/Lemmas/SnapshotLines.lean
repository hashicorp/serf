/-
The snapshot line format (SerfModel.Snapshot): a printed line parses back to itself, and replaying
a newline-terminated file followed by more bytes is replaying the file and then the lines among
those bytes; an unterminated tail, hence a write cut at any byte, is not seen.
-/
import SerfModel.Model.Snapshot
import SerfProofs.Lemmas.Assoc
namespace SerfProofs.Snapshot
open SerfModel SerfModel.Snapshot

theorem digitChar_spec : ∀ d, d < 10 →
    ('0' ≤ digitChar d ∧ digitChar d ≤ '9') ∧ (digitChar d).toNat - 48 = d ∧
    digitChar d ≠ '\n' := by decide

theorem parseDecAux_append (l1 l2 : Bytes) : ∀ acc,
    parseDecAux acc (l1 ++ l2) = (parseDecAux acc l1).bind (fun a => parseDecAux a l2) := by
  induction l1 with
  | nil => intro acc; simp [parseDecAux]
  | cons c cs ih =>
    intro acc
    simp only [List.cons_append, parseDecAux]
    by_cases h : '0' ≤ c ∧ c ≤ '9'
    · simp only [h, and_self, ↓reduceIte]; exact ih _
    · simp [h]

theorem parseDecAux_decDigits : ∀ fuel n, n < fuel → parseDecAux 0 (decDigits fuel n) = some n := by
  intro fuel
  induction fuel with
  | zero => intro n h; omega
  | succ f ih =>
    intro n h
    unfold decDigits
    by_cases h10 : n < 10
    · obtain ⟨hdig, hval, _⟩ := digitChar_spec n h10
      simp [h10, parseDecAux, hdig, hval]
    · simp only [h10, ↓reduceIte]
      rw [parseDecAux_append, ih (n / 10) (by omega)]
      obtain ⟨hdig, hval, _⟩ := digitChar_spec (n % 10) (by omega)
      simp only [Option.bind_some, parseDecAux, hdig, and_self, ↓reduceIte, hval]
      congr 1; omega

theorem decDigits_ne_nil : ∀ fuel n, 0 < fuel → decDigits fuel n ≠ [] := by
  intro fuel n h
  cases fuel with
  | zero => omega
  | succ f =>
    unfold decDigits
    by_cases h10 : n < 10 <;> simp [h10]

theorem decDigits_chars : ∀ fuel n c, c ∈ decDigits fuel n → c ≠ '\n' := by
  intro fuel
  induction fuel with
  | zero => intro n c h; simp [decDigits] at h
  | succ f ih =>
    intro n c h
    unfold decDigits at h
    by_cases h10 : n < 10
    · simp only [h10, ↓reduceIte, List.mem_singleton] at h
      subst h; exact (digitChar_spec n h10).2.2
    · simp only [h10, ↓reduceIte, List.mem_append, List.mem_singleton] at h
      rcases h with h | h
      · exact ih _ _ h
      · subst h; exact (digitChar_spec (n % 10) (by omega)).2.2

/-- 2^64 (a constant, so that no tactic ever looks inside the number) -/
def U64 : Nat := 18446744073709551616

theorem parseUint64_printDec (n : Nat) (h : n < U64) : parseUint64 (printDec n) = some n := by
  unfold U64 at h
  unfold parseUint64 printDec
  simp [decDigits_ne_nil (n + 1) n (by omega), parseDecAux_decDigits (n + 1) n (by omega), h]

theorem printDec_noNL (n : Nat) : '\n' ∉ printDec n := fun h => decDigits_chars _ _ _ h rfl

theorem stripPrefix_append (p s : Bytes) : stripPrefix p (p ++ s) = some s := by
  induction p with
  | nil => cases s <;> rfl
  | cons c cs ih => simp [stripPrefix, ih]

theorem splitLastSpace_none (a : Bytes) (h : ' ' ∉ a) : splitLastSpace a = none := by
  induction a with
  | nil => rfl
  | cons c cs ih =>
    simp only [List.mem_cons, not_or] at h
    simp only [splitLastSpace, ih h.2]
    have : ¬ c = ' ' := fun e => h.1 e.symm
    simp [this]

theorem splitLastSpace_spec (n a : Bytes) (h : ' ' ∉ a) : splitLastSpace (n ++ ' ' :: a) = some (n, a) := by
  induction n with
  | nil => simp [splitLastSpace, splitLastSpace_none a h]
  | cons c cs ih => simp [splitLastSpace, ih]

def WFName (n : Name) : Prop := '\n' ∉ n
def WFAddr (a : Addr) : Prop := ' ' ∉ a ∧ '\n' ∉ a

instance (n : Name) : Decidable (WFName n) := by unfold WFName; infer_instance
instance (a : Addr) : Decidable (WFAddr a) := by unfold WFAddr; infer_instance

def WFLine : Line → Prop
  | .alive n a => WFName n ∧ WFAddr a
  | .notAlive n => WFName n
  | .clock t => t < U64
  | .eventClock t => t < U64
  | .queryClock t => t < U64
  | .leave => True

instance (l : Line) : Decidable (WFLine l) := by
  cases l <;> unfold WFLine <;> infer_instance

theorem parseLine_printBody (l : Line) (h : WFLine l) : parseLine (printBody l) = some l := by
  cases l with
  | alive n a =>
    simp only [printBody, parseLine, stripPrefix_append, splitLastSpace_spec n a h.2.1, Option.map_some]
  | notAlive n =>
    have h1 : stripPrefix pAlive (pNotAlive ++ n) = none := rfl
    simp only [printBody, parseLine, h1, stripPrefix_append]
  | clock t =>
    have h1 : stripPrefix pAlive (pClock ++ printDec t) = none := rfl
    have h2 : stripPrefix pNotAlive (pClock ++ printDec t) = none := rfl
    simp only [printBody, parseLine, h1, h2, stripPrefix_append, parseUint64_printDec t h, Option.map_some]
  | eventClock t =>
    have h1 : stripPrefix pAlive (pEventClock ++ printDec t) = none := rfl
    have h2 : stripPrefix pNotAlive (pEventClock ++ printDec t) = none := rfl
    have h3 : stripPrefix pClock (pEventClock ++ printDec t) = none := rfl
    simp only [printBody, parseLine, h1, h2, h3, stripPrefix_append, parseUint64_printDec t h, Option.map_some]
  | queryClock t =>
    have h1 : stripPrefix pAlive (pQueryClock ++ printDec t) = none := rfl
    have h2 : stripPrefix pNotAlive (pQueryClock ++ printDec t) = none := rfl
    have h3 : stripPrefix pClock (pQueryClock ++ printDec t) = none := rfl
    have h4 : stripPrefix pEventClock (pQueryClock ++ printDec t) = none := rfl
    simp only [printBody, parseLine, h1, h2, h3, h4, stripPrefix_append, parseUint64_printDec t h, Option.map_some]
  | leave => decide

theorem printBody_noNL (l : Line) (h : WFLine l) : '\n' ∉ printBody l := by
  cases l with
  | alive n a => exact List.not_mem_append (by decide) (List.not_mem_append h.1 (List.not_mem_cons_of_ne_of_not_mem (by decide) h.2.2))
  | notAlive n => exact List.not_mem_append (by decide) h
  | clock t => exact List.not_mem_append (by decide) (printDec_noNL t)
  | eventClock t => exact List.not_mem_append (by decide) (printDec_noNL t)
  | queryClock t => exact List.not_mem_append (by decide) (printDec_noNL t)
  | leave => decide

/-- the bytes are empty or end with a newline -/
def endsNL : Bytes → Bool
  | [] => true
  | c :: cs => if cs = [] then c = '\n' else endsNL cs

theorem endsNL_snoc (x : Bytes) : endsNL (x ++ ['\n']) = true := by
  induction x with
  | nil => simp [endsNL]
  | cons c cs ih =>
    simp only [List.cons_append, endsNL]
    simp [ih]

theorem endsNL_append {x y : Bytes} (hx : endsNL x = true) (hy : endsNL y = true) : endsNL (x ++ y) = true := by
  induction x with
  | nil => simpa using hy
  | cons c cs ih =>
    by_cases hcs : cs = []
    · subst hcs
      cases y with
      | nil => simpa using hx
      | cons d ds => simp only [List.cons_append, List.nil_append, endsNL]; simpa [endsNL] using hy
    · simp only [endsNL, hcs, ↓reduceIte] at hx
      have : cs ++ y ≠ [] := by simp [hcs]
      simp only [List.cons_append, endsNL, this, ↓reduceIte]
      exact ih hx

theorem splitLines_ne_nil (x : Bytes) (hne : x ≠ []) (h : endsNL x = true) : splitLines x ≠ [] := by
  induction x with
  | nil => exact absurd rfl hne
  | cons c cs ih =>
    rw [splitLines.eq_2]
    by_cases hc : c = '\n'
    · simp [hc]
    · by_cases hcs : cs = []
      · simp only [endsNL, hcs, ↓reduceIte, decide_eq_true_eq] at h
        exact absurd h hc
      · simp only [endsNL, hcs, ↓reduceIte] at h
        have := ih hcs h
        simp only [hc, ↓reduceIte]
        cases hs : splitLines cs with
        | nil => exact absurd hs this
        | cons l ls => simp

theorem splitLines_append (x y : Bytes) (hx : endsNL x = true) :
    splitLines (x ++ y) = splitLines x ++ splitLines y := by
  induction x with
  | nil => simp [splitLines]
  | cons c cs ih =>
    by_cases hcs : cs = []
    · subst hcs
      simp only [endsNL, ↓reduceIte, decide_eq_true_eq] at hx
      subst hx
      simp [splitLines]
    · simp only [endsNL, hcs, ↓reduceIte] at hx
      have ih' := ih hx
      simp only [List.cons_append]
      rw [splitLines.eq_2, splitLines.eq_2 c cs]
      by_cases hc : c = '\n'
      · simp [hc, ih']
      · simp only [hc, ↓reduceIte, ih']
        cases hs : splitLines cs with
        | nil => exact absurd hs (splitLines_ne_nil cs hcs hx)
        | cons l ls => simp

theorem splitLines_body (b : Bytes) (h : '\n' ∉ b) : splitLines (b ++ ['\n']) = [b] := by
  induction b with
  | nil => simp [splitLines]
  | cons c cs ih =>
    simp only [List.mem_cons, not_or] at h
    have hc : ¬ c = '\n' := fun e => h.1 e.symm
    rw [List.cons_append, splitLines.eq_2, if_neg hc, ih h.2]

theorem replay_append (rj : Bool) (x y : Bytes) (hx : endsNL x = true) :
    replay rj (x ++ y) = (splitLines y).foldl (applyRaw rj) (replay rj x) := by
  simp [replay, splitLines_append x y hx, List.foldl_append]

theorem replay_append_line (rj : Bool) (x : Bytes) (l : Line) (hx : endsNL x = true) (hl : WFLine l) :
    replay rj (x ++ printLine l) = applyLine rj (replay rj x) l := by
  rw [replay_append rj x _ hx, printLine, splitLines_body _ (printBody_noNL l hl)]
  simp [applyRaw, parseLine_printBody l hl]

theorem endsNL_printLine (l : Line) : endsNL (printLine l) = true := endsNL_snoc _

theorem splitLines_noNL (p : Bytes) (h : '\n' ∉ p) : splitLines p = [] := by
  induction p with
  | nil => rfl
  | cons c cs ih =>
    simp only [List.mem_cons, not_or] at h
    have hc : ¬ c = '\n' := fun e => h.1 e.symm
    rw [splitLines.eq_2, if_neg hc, ih h.2]

theorem replay_torn_tail (rj : Bool) (x p : Bytes) (hx : endsNL x = true) (hp : '\n' ∉ p) :
    replay rj (x ++ p) = replay rj x := by
  rw [replay_append rj x p hx, splitLines_noNL p hp]; rfl

theorem printLine_take_noNL (l : Line) (hl : WFLine l) (c : Nat) (hc : c < (printLine l).length) :
    '\n' ∉ (printLine l).take c := by
  have hlen : c ≤ (printBody l).length := by simp [printLine] at hc; omega
  rw [printLine, List.take_append_of_le_length hlen]
  exact fun hm => printBody_noNL l hl (List.mem_of_mem_take hm)

theorem completeLen_noNL (p : Bytes) (h : '\n' ∉ p) : completeLen p = 0 := by
  induction p with
  | nil => rfl
  | cons c cs ih =>
    simp only [List.mem_cons, not_or] at h
    have hc : ¬ c = '\n' := fun e => h.1 e.symm
    simp [completeLen, ih h.2, hc]

theorem completeLen_append_noNL (x p : Bytes) (h : '\n' ∉ p) : completeLen (x ++ p) = completeLen x := by
  induction x with
  | nil => simpa [completeLen] using completeLen_noNL p h
  | cons c cs ih => simp [completeLen, ih]

theorem completeLen_endsNL (x : Bytes) (h : endsNL x = true) : completeLen x = x.length := by
  induction x with
  | nil => rfl
  | cons c cs ih =>
    by_cases hcs : cs = []
    · subst hcs
      simp only [endsNL, ↓reduceIte, decide_eq_true_eq] at h
      simp [completeLen, h]
    · simp only [endsNL, hcs, ↓reduceIte] at h
      have := ih h
      have hpos : cs.length > 0 := List.length_pos_iff.mpr hcs
      simp [completeLen, this, hpos]

end SerfProofs.Snapshot
