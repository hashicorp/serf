/-
The laws of `LawfulFloatLike` PROVED for the exact instance `ERat` (extended rationals): the theorems of
C20/C21 that assume the laws therefore have a model, i.e. they are not vacuous.
-/
import SerfModel.Model.ERat
import SerfProofs.Lemmas.FloatLaws
namespace SerfModel.ERat
open SerfModel FloatLike

@[simp] theorem fl_le (a b : ERat) : FloatLike.le a b = ERat.le a b := rfl
@[simp] theorem fl_lt (a b : ERat) : FloatLike.lt a b = ERat.lt a b := rfl
@[simp] theorem fl_add (a b : ERat) : FloatLike.add a b = ERat.add a b := rfl
@[simp] theorem fl_sub (a b : ERat) : FloatLike.sub a b = ERat.sub a b := rfl
@[simp] theorem fl_mul (a b : ERat) : FloatLike.mul a b = ERat.mul a b := rfl
@[simp] theorem fl_div (a b : ERat) : FloatLike.div a b = ERat.div a b := rfl
@[simp] theorem fl_abs (a : ERat) : FloatLike.abs a = ERat.abs a := rfl
@[simp] theorem fl_sqrt (a : ERat) : FloatLike.sqrt a = ERat.sqrt a := rfl
@[simp] theorem fl_max (a b : ERat) : FloatLike.max a b = ERat.max a b := rfl
@[simp] theorem fl_isNaN (a : ERat) : FloatLike.isNaN a = ERat.isNaN a := rfl
@[simp] theorem fl_isInf (a : ERat) : FloatLike.isInf a = ERat.isInf a := rfl
@[simp] theorem fl_zero : (FloatLike.zero : ERat) = fin 0 := by
  show fin ((0 : Int) : Rat) = fin 0
  rw [Rat.intCast_zero]
@[simp] theorem fl_one : (FloatLike.one : ERat) = fin 1 := by
  show fin ((1 : Int) : Rat) = fin 1
  rw [Rat.intCast_one]

theorem NN_iff (x : ERat) : NN x ↔ x = nan ∨ x = pinf ∨ ∃ q, x = fin q ∧ 0 ≤ q := by
  unfold NN
  cases x <;> simp [ERat.isNaN, ERat.le]

theorem U_iff (x : ERat) : U x ↔ x = nan ∨ ∃ q, x = fin q ∧ 0 ≤ q ∧ q ≤ 1 := by
  unfold U
  cases x <;> simp [ERat.isNaN, ERat.le]

theorem lt_of_lt_of_le' {a b c : Rat} (h1 : a < b) (h2 : b ≤ c) : a < c := Std.lt_of_lt_of_le h1 h2

theorem lt_of_le_of_lt' {a b c : Rat} (h1 : a ≤ b) (h2 : b < c) : a < c := Std.lt_of_le_of_lt h1 h2

theorem inv_nonneg' {b : Rat} (h : 0 ≤ b) : 0 ≤ b⁻¹ := by
  by_cases hb : b = 0
  · subst hb; rw [Rat.inv_zero]; exact Rat.le_refl
  · have : 0 < b := Rat.lt_of_le_of_ne h (fun e => hb e.symm)
    exact Rat.le_of_lt (Rat.inv_pos.2 this)

theorem div_nonneg' {a b : Rat} (ha : 0 ≤ a) (hb : 0 ≤ b) : 0 ≤ a / b := by
  rw [Rat.div_def]; exact Rat.mul_nonneg ha (inv_nonneg' hb)

theorem sgn_pos_or_zero_cases (q : Rat) (h : 0 ≤ q) : (q = 0 ∧ sgn q = 0) ∨ (0 < q ∧ sgn q = 1) := by
  unfold sgn
  have : ¬ q < 0 := Rat.not_lt.2 h
  simp only [this, if_false]
  by_cases h0 : q = 0
  · left; simp [h0]
  · right; exact ⟨Rat.lt_of_le_of_ne h (fun e => h0 e.symm), by simp [h0]⟩

theorem sgn_nonneg {q : Rat} (h : 0 ≤ q) : sgn q = 0 ∨ sgn q = 1 :=
  (sgn_pos_or_zero_cases q h).imp (·.2) (·.2)

theorem nn_mul' (a b : ERat) (ha : NN a) (hb : NN b) : NN (FloatLike.mul a b) := by
  rw [NN_iff] at *
  rcases ha with rfl | rfl | ⟨p, rfl, hp⟩ <;> rcases hb with rfl | rfl | ⟨q, rfl, hq⟩ <;>
    simp [ERat.mul, ERat.esgn, ERat.ofSign]
  · rcases sgn_nonneg hq with h | h <;> simp [h]
  · rcases sgn_nonneg hp with h | h <;> simp [h]
  · exact Rat.mul_nonneg hp hq

theorem nn_add' (a b : ERat) (ha : NN a) (hb : NN b) : NN (FloatLike.add a b) := by
  rw [NN_iff] at *
  rcases ha with rfl | rfl | ⟨p, rfl, hp⟩ <;> rcases hb with rfl | rfl | ⟨q, rfl, hq⟩ <;>
    simp [ERat.add]
  exact Rat.add_nonneg hp hq

theorem nn_div' (a b : ERat) (ha : NN a) (hb : NN b) : NN (FloatLike.div a b) := by
  rw [NN_iff] at *
  rcases ha with rfl | rfl | ⟨p, rfl, hp⟩ <;> rcases hb with rfl | rfl | ⟨q, rfl, hq⟩ <;>
    simp [ERat.div]
  · simp [Rat.not_lt.2 hq]
  · by_cases h0 : q = 0
    · simp only [h0, if_true, ERat.ofSign]
      rcases sgn_nonneg hp with h | h <;> simp [h]
    · simp only [h0, if_false]
      exact Or.inr (Or.inr ⟨_, rfl, div_nonneg' hp hq⟩)

theorem le_nan_iff (a b : ERat) (h : ERat.le a b = true) : a ≠ nan ∧ b ≠ nan := by
  cases a <;> cases b <;> simp [ERat.le] at h ⊢

instance : LawfulFloatLike ERat where
  zero_finite := by decide
  le_not_nan a b h := by cases a <;> cases b <;> simp [ERat.le, ERat.isNaN] at h ⊢
  lt_not_nan a b h := by cases a <;> cases b <;> simp [ERat.lt, ERat.isNaN] at h ⊢
  le_refl a h := by cases a <;> simp [ERat.le, ERat.isNaN, Rat.le_refl] at h ⊢
  le_of_not_lt a b ha hb h := by
    cases a <;> cases b <;> simp [ERat.le, ERat.lt, ERat.isNaN] at ha hb h ⊢
    exact Rat.not_lt.1 h
  le_of_lt a b h := by
    cases a <;> cases b <;> simp [ERat.le, ERat.lt] at h ⊢
    exact Rat.le_of_lt h
  le_trans a b c h1 h2 := by
    cases a <;> cases b <;> cases c <;> simp [ERat.le] at h1 h2 ⊢
    exact Rat.le_trans h1 h2
  lt_of_lt_of_le a b c h1 h2 := by
    cases a <;> cases b <;> cases c <;> simp [ERat.le, ERat.lt] at h1 h2 ⊢
    exact lt_of_lt_of_le' h1 h2
  lt_of_le_of_lt a b c h1 h2 := by
    cases a <;> cases b <;> cases c <;> simp [ERat.le, ERat.lt] at h1 h2 ⊢
    exact lt_of_le_of_lt' h1 h2
  max_ge_right x y hy h := by
    cases x <;> cases y <;> simp [ERat.max, ERat.le, ERat.isNaN] at hy h ⊢
    rename_i a b
    by_cases hab : b < a
    · simp [hab]; exact Rat.le_of_lt hab
    · simp [hab]
  thr_pos := by
    show ERat.lt (fin ((0 : Int) : Rat)) (ERat.div (fin ((1 : Int) : Rat)) (fin ((1000000 : Int) : Rat))) = true
    have h6 : (0 : Rat) < ((1000000 : Int) : Rat) := by
      rw [show (0 : Rat) = ((0 : Int) : Rat) from Rat.intCast_zero.symm]; exact Rat.intCast_lt_intCast.2 (by decide)
    have hne : ((1000000 : Int) : Rat) ≠ 0 := fun e => by rw [e] at h6; exact Rat.lt_irrefl h6
    simp only [ERat.div, hne, if_false, ERat.lt, Rat.intCast_zero, Rat.intCast_one]
    rw [Rat.div_def, Rat.one_mul]
    exact decide_eq_true (Rat.inv_pos.2 h6)
  div_nan_right x t h := by cases x <;> cases t <;> simp [ERat.div, ERat.isNaN] at h ⊢
  nn_mul := nn_mul'
  nn_add := nn_add'
  nn_div := nn_div'
  nn_abs a := by
    rw [NN_iff]
    cases a <;> simp [ERat.abs]
    rename_i q
    by_cases h : q < 0
    · simp [h]; exact Rat.le_of_lt (by simpa using Rat.neg_lt_neg h)
    · simp [h]; exact Rat.not_lt.1 h
  nn_sqrt a := by
    rw [NN_iff]
    cases a <;> simp [ERat.sqrt]
    rename_i q
    by_cases h : q < 0
    · simp [h]
    · simp [h, ERat.sqrtQ]
  unit_mul a b ha hb := by
    rw [U_iff] at *
    rcases ha with rfl | ⟨p, rfl, hp0, hp1⟩ <;> rcases hb with rfl | ⟨q, rfl, hq0, hq1⟩ <;> simp [ERat.mul]
    refine ⟨Rat.mul_nonneg hp0 hq0, ?_⟩
    have h1 : p * q ≤ 1 * q := Rat.mul_le_mul_of_nonneg_right hp1 hq0
    rw [Rat.one_mul] at h1
    exact Rat.le_trans h1 hq1
  one_sub_unit t ht := by
    rw [U_iff] at ht
    rw [NN_iff]
    rcases ht with rfl | ⟨q, rfl, _, hq1⟩ <;> simp [ERat.sub, ERat.add, ERat.neg]
    rw [← Rat.sub_eq_add_neg]
    exact (Rat.le_iff_sub_nonneg _ _).1 hq1
  unit_div x t hx hxt ht := by
    rw [U_iff]
    have h01 : (0 : Rat) ≤ 1 := by decide
    cases x <;> cases t <;> simp [ERat.le, ERat.lt, ERat.div, h01, Rat.le_refl] at hx hxt ht ⊢
    rename_i a b
    have hb0 : b ≠ 0 := fun e => by subst e; exact Rat.lt_irrefl ht
    simp only [hb0, if_false]
    have hinv : 0 ≤ b⁻¹ := Rat.le_of_lt (Rat.inv_pos.2 ht)
    refine Or.inr ⟨_, rfl, div_nonneg' hx (Rat.le_of_lt ht), ?_⟩
    rw [Rat.div_def]
    have := Rat.mul_le_mul_of_nonneg_right hxt hinv
    rwa [Rat.mul_inv_cancel _ hb0] at this
  add_ge_left x y hx hy := by
    cases x <;> cases y <;> simp [ERat.le, ERat.add, ERat.isNaN] at hx hy ⊢
    rename_i a b
    have := (Rat.add_le_add_left (c := a)).2 hy
    rwa [Rat.add_zero] at this
  toInt64_nn x hx := by
    rw [NN_iff] at hx
    rcases hx with rfl | rfl | ⟨q, rfl, hq⟩
    · right; rfl
    · right; rfl
    · show 0 ≤ ERat.toInt64 (fin q) ∨ ERat.toInt64 (fin q) = -9223372036854775808
      simp only [ERat.toInt64]
      split
      · right; rfl
      · left
        have hn : 0 ≤ q.num := Rat.num_nonneg.2 hq
        exact Int.tdiv_nonneg hn (Int.natCast_nonneg _)
  add_comm x y := by
    show ERat.add x y = ERat.add y x
    cases x <;> cases y <;> simp [ERat.add, Rat.add_comm]
  sub_sq_comm a b := by
    cases a <;> cases b <;> simp [ERat.sub, ERat.neg, ERat.add, ERat.mul, ERat.esgn, ERat.ofSign]
    rename_i p q
    rw [← Rat.sub_eq_add_neg, ← Rat.sub_eq_add_neg, ← Rat.neg_sub q p, Rat.neg_mul, Rat.mul_neg, Rat.neg_neg]

end SerfModel.ERat
