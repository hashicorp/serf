/-
Gossip re-queueing of join / leave intents in the node model (`SerfModel.Node`), for C04.

`NotifyMsg` re-queues a received join / leave message iff the handler returned true, which is
`(step n op).2.rebroadcast` for `op = .joinMsg … / .leaveMsg …`; `rebroadcasts n ops` lists the
re-queued messages of a run.  This file bounds how often one message `m` can occur in that list
while the node keeps what it recorded about `m.node` (`Retained`), by a potential `rank n m`:
  0  if the node already holds a time ≥ `m.ltime` for `m.node` (`covered`),
  2  if not and `m` is a prune leave about a known member,
  1  otherwise.
A delivery of `m` that is re-queued lowers the potential by at least one, one that is not leaves
members and intents as they were (`Outcome`, `outcome_deliver`); every other input inside the
retention window, except memberlist announcing the subject of a prune leave (unknown: 1, known: 2), does
not raise it (`other_rank`, which carries that proviso): a covered message stays covered
(`covered_keeps`), because no op lowers the Lamport time of a member record and only memberlist's
NotifyJoin creates a record, with the buffered intent's time (`NodeSteps.step_members`).
Core Lean only.
-/
import SerfProofs.Lemmas.NodeSteps
namespace SerfProofs.NodeGossip
open SerfModel SerfModel.Node SerfProofs.NodeSteps

/-- the node has already recorded a time ≥ the message's: delivering it again is a no-op -/
def covered (n : Node) (m : Msg) : Bool :=
  match alookup n.members m.node with
  | some mem => decide (m.ltime ≤ mem.ltime)
  | none => match alookup n.intents m.node with
    | some i => decide (m.ltime ≤ i.ltime)
    | none => false

/-- `op` keeps the retention window of member `x` open: it does not erase the member and does not
drop or lower its buffered intent -/
def Keeps (n : Node) (op : Op) (x : Name) : Prop :=
  (known n x = true → known (step n op).1 x = true) ∧
  (∀ i, known n x = false → intentOf n x = some i →
     known (step n op).1 x = true ∨ ∃ i', intentOf (step n op).1 x = some i' ∧ i.ltime ≤ i'.ltime)

/-- the retention window of `m` stays open along the run; deliveries of `m` itself always count as
inside the window (strong reading) -/
def Retained : Node → List Op → Msg → Prop
  | _, [], _ => True
  | n, op :: ops, m => (op.msg? = some m ∨ Keeps n op m.node) ∧ Retained (step n op).1 ops m

/-- memberlist does not announce the member anew during the run -/
def NoRejoin (ops : List Op) (x : Name) : Prop := ∀ op ∈ ops, op ≠ .nodeJoin x

/-- potential: how many more times `m` can be re-queued -/
def rank (n : Node) (m : Msg) : Nat :=
  if covered n m then 0 else if m.isPrune && known n m.node then 2 else 1

theorem covered_of_member {n : Node} {m : Msg} {mem : Member} (h : alookup n.members m.node = some mem) :
    covered n m = decide (m.ltime ≤ mem.ltime) := by
  simp [covered, h]

theorem covered_of_intent {n : Node} {m : Msg} {i : Intent} (h : alookup n.members m.node = none)
    (hi : alookup n.intents m.node = some i) : covered n m = decide (m.ltime ≤ i.ltime) := by
  simp [covered, h, hi]

theorem covered_of_none {n : Node} {m : Msg} (h : alookup n.members m.node = none)
    (hi : alookup n.intents m.node = none) : covered n m = false := by
  simp [covered, h, hi]

theorem rank_congr {n n' : Node} (hm : n'.members = n.members) (hi : n'.intents = n.intents) (m : Msg) :
    rank n' m = rank n m := by
  simp [rank, covered, known, hm, hi]

theorem rank_le_two (n : Node) (m : Msg) : rank n m ≤ 2 := by
  unfold rank; split <;> (try split) <;> omega

theorem rank_of_covered {n : Node} {m : Msg} (h : covered n m = true) : rank n m = 0 := by
  simp [rank, h]

theorem rank_pos_of_not_covered {n : Node} {m : Msg} (h : covered n m = false) : 1 ≤ rank n m := by
  unfold rank; rw [h]; simp only [Bool.false_eq_true, if_false]; split <;> omega

theorem rank_le_one_of_unknown {n : Node} {m : Msg} (h : known n m.node = false) : rank n m ≤ 1 := by
  unfold rank; split
  · omega
  · simp [h]

theorem rank_le_one_of_not_prune {n : Node} {m : Msg} (h : m.isPrune = false) : rank n m ≤ 1 := by
  unfold rank; split
  · omega
  · simp [h]

theorem rank_eq_two {n : Node} {m : Msg} (hc : covered n m = false) (hp : m.isPrune = true)
    (hk : known n m.node = true) : rank n m = 2 := by
  simp [rank, hc, hp, hk]

/-- What a delivery of `m` does: nothing (up to clock and pending refutations), or it is re-queued
and `m` becomes covered, or it is a re-queued prune about a known member, which is erased. -/
def Outcome (n n' : Node) (m : Msg) (reb : Bool) : Prop :=
  (reb = false ∧ n'.members = n.members ∧ n'.intents = n.intents) ∨
  (reb = true ∧ covered n m = false ∧ covered n' m = true) ∨
  (reb = true ∧ covered n m = false ∧ m.isPrune = true ∧ known n m.node = true ∧ known n' m.node = false)

theorem Outcome.rank_drop {n n' : Node} {m : Msg} {reb : Bool} (h : Outcome n n' m reb) :
    (if reb then 1 else 0) + rank n' m ≤ rank n m := by
  rcases h with ⟨hr, hm, hi⟩ | ⟨hr, hc, hc'⟩ | ⟨hr, hc, hp, hk, hk'⟩
  · subst hr; rw [rank_congr hm hi]; simp
  · subst hr; rw [rank_of_covered hc']; have := rank_pos_of_not_covered hc; simpa using this
  · subst hr
    have h1 := rank_eq_two hc hp hk
    have h2 : rank n' m ≤ 1 := rank_le_one_of_unknown hk'
    simp only [if_true]; omega

theorem outcome_upsert (n n' : Node) (m : Msg) (b : Bool) (w : Nat)
    (hnone : alookup n.members m.node = none) (hm : n'.members = n.members)
    (hi : n'.intents = (upsertIntent n.intents m.node b m.ltime w).1) :
    Outcome n n' m (upsertIntent n.intents m.node b m.ltime w).2 := by
  rcases upsertIntent_cases n.intents m.node b m.ltime w with ⟨he, _⟩ | ⟨h2, hl, _, hold⟩
  · left; exact ⟨by rw [he], hm, by rw [hi, he]⟩
  · right; left
    refine ⟨h2, ?_, ?_⟩
    · cases hio : alookup n.intents m.node with
      | none => exact covered_of_none hnone hio
      | some i =>
        rw [covered_of_intent hnone hio]
        have := hold i hio
        simp; omega
    · have hnone' : alookup n'.members m.node = none := by rw [hm]; exact hnone
      have hl' : alookup n'.intents m.node = some ⟨b, m.ltime, w⟩ := by rw [hi]; exact hl
      rw [covered_of_intent hnone' hl']
      simp

theorem outcome_joinIntent (n : Node) (x : Name) (lt w : Nat) :
    Outcome n (handleJoinIntent n x lt w).1 (.join x lt) (handleJoinIntent n x lt w).2.rebroadcast := by
  refine hji_ind (C := fun r => Outcome n r.1 (.join x lt) r.2.rebroadcast) n x lt w ?_ ?_ ?_
  · intro hm; exact outcome_upsert n _ (.join x lt) false w hm rfl rfl
  · intro m _ _; exact Or.inl ⟨rfl, rfl, rfl⟩
  · intro m hm hlt
    refine Or.inr (Or.inl ⟨rfl, ?_, ?_⟩)
    · rw [covered_of_member (m := .join x lt) hm]; exact decide_eq_false (Nat.not_le.mpr hlt)
    · rw [covered_of_member (m := .join x lt) alookup_ainsert_self, joinUpd_of_lt hlt]
      exact decide_eq_true (Nat.le_refl _)

theorem outcome_leaveIntent (n : Node) (x : Name) (lt : Nat) (p : Bool) (w : Nat) :
    Outcome n (handleLeaveIntent n x lt p w).1 (.leave x lt p) (handleLeaveIntent n x lt p w).2.rebroadcast := by
  refine hli_ind (C := fun r => Outcome n r.1 (.leave x lt p) r.2.rebroadcast) n x lt p w ?_ ?_ ?_ ?_
  · intro hm; exact outcome_upsert n _ (.leave x lt p) true w hm rfl rfl
  · intro m _ _; exact Or.inl ⟨rfl, rfl, rfl⟩
  · intro m _ _ _ _; exact Or.inl ⟨rfl, rfl, rfl⟩
  · intro m hm hlt _
    have hc : covered n (.leave x lt p) = false := by
      rw [covered_of_member (m := .leave x lt p) hm]; exact decide_eq_false (Nat.not_le.mpr hlt)
    cases p
    · refine Or.inr (Or.inl ⟨rfl, hc, ?_⟩)
      rw [covered_of_member (m := .leave x lt false) alookup_ainsert_self, leaveUpd_of_lt hlt]
      exact decide_eq_true (Nat.le_refl _)
    · exact Or.inr (Or.inr ⟨rfl, hc, rfl, known_of_lookup hm, known_of_lookup_none alookup_aerase_self⟩)

theorem outcome_deliver (n : Node) (op : Op) (m : Msg) (hm : op.msg? = some m) :
    Outcome n (step n op).1 m (step n op).2.rebroadcast := by
  cases op with
  | joinMsg x lt w =>
    simp only [Op.msg?, Option.some.injEq] at hm
    subst hm; exact outcome_joinIntent n x lt w
  | leaveMsg x lt p w =>
    simp only [Op.msg?, Option.some.injEq] at hm
    subst hm; exact outcome_leaveIntent n x lt p w
  | _ => simp [Op.msg?] at hm

/-- Inside the retention window a covered message stays covered: a record keeps or raises its time,
a buffered intent is kept or replaced by a newer one, or becomes the time of the new record. -/
theorem covered_keeps (n : Node) (op : Op) (m : Msg) (hk : Keeps n op m.node) (hc : covered n m = true) :
    covered (step n op).1 m = true := by
  cases hl : alookup n.members m.node with
  | some mem =>
    rw [covered_of_member hl] at hc
    obtain ⟨mem', hl'⟩ := Option.isSome_iff_exists.mp (hk.1 (known_of_lookup hl))
    rcases step_members n op m.node with hmono | ⟨_, hnone, _⟩
    · obtain ⟨mem0, h0, hle⟩ := hmono mem' hl'
      rw [hl] at h0; cases h0
      rw [covered_of_member hl']
      exact decide_eq_true (Nat.le_trans (of_decide_eq_true hc) hle)
    · rw [hl] at hnone; cases hnone
  | none =>
    cases hio : alookup n.intents m.node with
    | none => rw [covered_of_none hl hio] at hc; cases hc
    | some i =>
      rw [covered_of_intent hl hio] at hc
      have hti : m.ltime ≤ i.ltime := of_decide_eq_true hc
      cases hl' : alookup (step n op).1.members m.node with
      | some mem' =>
        rcases step_members n op m.node with hmono | ⟨_, _, hrec⟩
        · obtain ⟨mem0, h0, _⟩ := hmono mem' hl'
          rw [hl] at h0; cases h0
        · rw [hl'] at hrec; cases hrec
          rw [covered_of_member hl', newRec_ltime, hio]
          exact decide_eq_true hti
      | none =>
        rcases hk.2 i (known_of_lookup_none hl) hio with hkn | ⟨i', hi', hle⟩
        · rw [known_of_lookup_none hl'] at hkn; cases hkn
        · rw [covered_of_intent hl' hi']
          exact decide_eq_true (Nat.le_trans hti hle)

theorem other_rank (n : Node) (op : Op) (m : Msg) (hk : Keeps n op m.node)
    (hj : m.isPrune = true → op ≠ .nodeJoin m.node) : rank (step n op).1 m ≤ rank n m := by
  cases hc : covered n m with
  | true => rw [rank_of_covered (covered_keeps n op m hk hc)]; exact Nat.zero_le _
  | false =>
    cases hp : m.isPrune with
    | false => exact Nat.le_trans (rank_le_one_of_not_prune hp) (rank_pos_of_not_covered hc)
    | true =>
      cases hkn : known n m.node with
      | true => rw [rank_eq_two hc hp hkn]; exact rank_le_two _ _
      | false =>
        -- an unknown member stays unknown: only memberlist's announcement creates a record
        have hkn' : known (step n op).1 m.node = false := by
          cases h' : known (step n op).1 m.node with
          | false => rfl
          | true => exact absurd (becomes_known_step n op m.node hkn h').1 (hj hp)
        exact Nat.le_trans (rank_le_one_of_unknown hkn') (rank_pos_of_not_covered hc)

theorem rebroadcasts_cons (n : Node) (op : Op) (ops : List Op) :
    rebroadcasts n (op :: ops) =
      match op.msg? with
      | some m => if (step n op).2.rebroadcast then m :: rebroadcasts (step n op).1 ops
                  else rebroadcasts (step n op).1 ops
      | none => rebroadcasts (step n op).1 ops := rfl

theorem count_cons_deliver (n : Node) (op : Op) (ops : List Op) (m : Msg) (hm : op.msg? = some m) :
    (rebroadcasts n (op :: ops)).count m =
      (if (step n op).2.rebroadcast then 1 else 0) + (rebroadcasts (step n op).1 ops).count m := by
  rw [rebroadcasts_cons, hm]
  cases (step n op).2.rebroadcast with
  | true => simp; omega
  | false => simp

theorem count_cons_other (n : Node) (op : Op) (ops : List Op) (m : Msg) (hm : op.msg? ≠ some m) :
    (rebroadcasts n (op :: ops)).count m = (rebroadcasts (step n op).1 ops).count m := by
  rw [rebroadcasts_cons]
  cases ho : op.msg? with
  | none => rfl
  | some m' =>
    have hne : m' ≠ m := by intro e; apply hm; rw [ho, e]
    cases (step n op).2.rebroadcast with
    | true => simp [hne]
    | false => simp

theorem count_le_rank (m : Msg) (ops : List Op) : ∀ n : Node, Retained n ops m →
    (m.isPrune = true → NoRejoin ops m.node) → (rebroadcasts n ops).count m ≤ rank n m := by
  induction ops with
  | nil => intro n _ _; simp [rebroadcasts]
  | cons op ops ih =>
    intro n hr hj
    obtain ⟨hhead, htail⟩ := hr
    have ih' := ih (step n op).1 htail (fun hp o ho => hj hp o (List.mem_cons_of_mem _ ho))
    by_cases hm : op.msg? = some m
    · rw [count_cons_deliver n op ops m hm]
      have := (outcome_deliver n op m hm).rank_drop
      omega
    · rw [count_cons_other n op ops m hm]
      have hk : Keeps n op m.node := hhead.resolve_left hm
      have := other_rank n op m hk (fun hp => hj hp op (List.mem_cons_self ..))
      omega

end SerfProofs.NodeGossip
