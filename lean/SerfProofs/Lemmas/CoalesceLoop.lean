/-
One iteration of `coalesceLoop` (serf/coalesce.go), for any coalescer: it idles, passes an unhandled
event on, absorbs a handled one, or flushes.  The four equations `step_*` and the case analysis `Iter`
built from them are all that the loops of C16 and C18 know about `step`.
-/
import SerfModel.Model.CoalesceLoop
namespace SerfProofs.CoalesceLoop
open SerfModel SerfModel.CoalesceLoop

variable {ε : Type}

def isShutdown : In ε → Bool
  | .shutdown => true
  | _ => false

def isEv : In ε → Bool
  | .ev _ => true
  | _ => false

/-- Is this case of the `select` ready?  A timer's is only while the timer is armed. -/
def enabled {C : Coalescer ε} (s : St C) : In ε → Bool
  | .quantum => s.quantum
  | .quiescent => s.quiescent
  | _ => true

theorem step_idle (C : Coalescer ε) (s : St C) (i : In ε) (h : s.done = true ∨ enabled s i = false) :
    step C s i = (s, []) := by
  cases i <;> simp_all [step, enabled]

theorem step_unhandled (C : Coalescer ε) (s : St C) (hs : s.done = false) (e : ε) (h : C.handle e = false) :
    step C s (.ev e) = (s, [e]) := by
  simp [step, hs, h]

theorem step_handled (C : Coalescer ε) (s : St C) (hs : s.done = false) (e : ε) (h : C.handle e = true) :
    step C s (.ev e) = ({ s with c := C.coalesce s.c e, quantum := true, quiescent := true }, []) := by
  simp [step, hs, h]

theorem step_flush (C : Coalescer ε) (s : St C) (hs : s.done = false) (t : In ε) (ht : isEv t = false)
    (ha : enabled s t = true) : step C s t = flushNow C s (isShutdown t) := by
  cases t <;> simp_all [step, enabled, isShutdown, isEv]

/-- The four things one iteration can do.  `cases` wants the result generalised first:
`have h := iter C s i; generalize step C s i = r at h; cases h`. -/
inductive Iter (C : Coalescer ε) (s : St C) : In ε → St C × List ε → Prop
  | idle (i : In ε) : s.done = true ∨ enabled s i = false → Iter C s i (s, [])
  | pass (e : ε) : s.done = false → C.handle e = false → Iter C s (.ev e) (s, [e])
  | absorb (e : ε) : s.done = false → C.handle e = true →
      Iter C s (.ev e) ({ s with c := C.coalesce s.c e, quantum := true, quiescent := true }, [])
  | flush (t : In ε) : s.done = false → isEv t = false → Iter C s t (flushNow C s (isShutdown t))

theorem iter (C : Coalescer ε) (s : St C) (i : In ε) : Iter C s i (step C s i) := by
  by_cases h : s.done = true ∨ enabled s i = false
  · rw [step_idle C s i h]
    exact .idle i h
  · simp only [not_or, Bool.not_eq_true, Bool.not_eq_false] at h
    cases i with
    | ev e =>
      cases hh : C.handle e with
      | false => rw [step_unhandled C s h.1 e hh]; exact .pass e h.1 hh
      | true => rw [step_handled C s h.1 e hh]; exact .absorb e h.1 hh
    | quantum => rw [step_flush C s h.1 .quantum rfl h.2]; exact .flush _ h.1 rfl
    | quiescent => rw [step_flush C s h.1 .quiescent rfl h.2]; exact .flush _ h.1 rfl
    | shutdown => rw [step_flush C s h.1 .shutdown rfl h.2]; exact .flush _ h.1 rfl

theorem step_done (C : Coalescer ε) (s : St C) (i : In ε) :
    (step C s i).1.done = (s.done || isShutdown i) := by
  have h := iter C s i
  generalize step C s i = r at h
  cases h with
  | idle i h => cases i <;> simp_all [enabled, isShutdown]
  | pass e hd hh => simp [isShutdown]
  | absorb e hd hh => simp [isShutdown]
  | flush t hd ht => simp [flushNow, hd]

theorem run_append (C : Coalescer ε) (a : List (In ε)) : ∀ (s : St C) (b : List (In ε)),
    run C s (a ++ b) = ((run C (run C s a).1 b).1, (run C s a).2 ++ (run C (run C s a).1 b).2) := by
  induction a with
  | nil => intro s b; simp [run]
  | cons i a ih => intro s b; simp [run, ih]

theorem run_length (C : Coalescer ε) (a : List (In ε)) : ∀ (s : St C), (run C s a).2.length = a.length := by
  induction a with
  | nil => intro s; simp [run]
  | cons i a ih => intro s; simp [run, ih]

theorem run_done (C : Coalescer ε) (a : List (In ε)) : ∀ (s : St C),
    (run C s a).1.done = (s.done || a.any isShutdown) := by
  induction a with
  | nil => intro s; simp [run]
  | cons i a ih => intro s; simp [run, ih, step_done, Bool.or_assoc]

theorem run_init_running (C : Coalescer ε) (a : List (In ε)) (h : a.any isShutdown = false) :
    (run C (init C) a).1.done = false := by
  rw [run_done, h]; rfl

theorem run_events (C : Coalescer ε) (evs : List ε) : ∀ (s : St C), s.done = false →
    run C s (evs.map .ev) =
      ({ s with c := (evs.filter C.handle).foldl C.coalesce s.c, quantum := s.quantum || evs.any C.handle,
                quiescent := s.quiescent || evs.any C.handle },
       evs.map (fun e => if C.handle e then [] else [e])) := by
  induction evs with
  | nil => intro s _; simp [run]
  | cons e evs ih =>
    intro s hs
    cases h : C.handle e with
    | true =>
      simp [run, step_handled C s hs e h, h,
        ih { s with c := C.coalesce s.c e, quantum := true, quiescent := true } hs]
    | false => simp [run, step_unhandled C s hs e h, ih s hs, h]

end SerfProofs.CoalesceLoop
