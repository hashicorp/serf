/-
The pieces of a life (the writes of each append, each compaction, the final flush) with
their windows of acceptable recovered states.  The pieces of an event are the pieces of the
lines it records (`stepPieces_eq`), so one record (`stepOK_record`) and a fold give
`PiecesSafe` for the pieces of `life`.
-/
import SerfProofs.Lemmas.SnapshotCrashSafe
namespace SerfProofs.Snapshot
open SerfModel SerfModel.Snapshot

-- as in SnapshotSteps.lean; here `life_pieces_safe` needs it
attribute [local irreducible] lastSeenOf

/-- a stretch of file-system operations and the in-memory states a crash inside it may recover -/
structure Piece where
  ops : List FsOp
  win : List RecState

def opsOf (ps : List Piece) : List FsOp := ps.flatMap (·.ops)

theorem opsOf_nil : opsOf [] = [] := rfl
theorem opsOf_cons (p : Piece) (ps : List Piece) : opsOf (p :: ps) = p.ops ++ opsOf ps := by simp [opsOf]
theorem opsOf_append (a b : List Piece) : opsOf (a ++ b) = opsOf a ++ opsOf b := by simp [opsOf]

/-- every crash point (operation index, byte cut of a write) of every piece recovers a state of
that piece's window; `fs` is the directory before the first piece -/
def PiecesSafe (rj : Bool) : FS → List Piece → Prop
  | _, [] => True
  | fs, p :: ps =>
    (∀ k cut, Rec rj p.win (recoverFile (FS.crashAt fs p.ops k cut))) ∧ PiecesSafe rj (fs.applyAll p.ops) ps

theorem PiecesSafe_append (rj : Bool) (a b : List Piece) : ∀ fs : FS,
    PiecesSafe rj fs (a ++ b) ↔ PiecesSafe rj fs a ∧ PiecesSafe rj (fs.applyAll (opsOf a)) b := by
  induction a with
  | nil => intro fs; simp [PiecesSafe, opsOf, FS.applyAll]
  | cons p ps ih =>
    intro fs
    simp only [List.cons_append, PiecesSafe, ih, opsOf_cons, applyAll_append, and_assoc]

/-- the pieces of `appendLine ord s1 l`, where `s1` already carries the in-memory change;
`win` is the window before. Returns the pieces and the window afterwards: after a compaction,
or when nothing stays buffered, only the new state. When bufio writes a full buffer through (`bufWrite`)
the rest of the new line stays buffered and the window is kept whole, although the older lines are
on disk by then: the window is sound, not tight. -/
def appendPieces (ord : Order) (s1 : Snap) (l : Bytes) (win : List RecState) : List Piece × List RecState :=
  if (appendBytes s1 l).1.offset > maxSize (appendBytes s1 l).1 then
    ([⟨(appendBytes s1 l).2, win ++ [s1.mem]⟩, ⟨(compact ord (appendBytes s1 l).1).2, win ++ [s1.mem]⟩], [s1.mem])
  else ([⟨(appendBytes s1 l).2, win ++ [s1.mem]⟩], if (appendBytes s1 l).1.buf = [] then [s1.mem] else win ++ [s1.mem])

/-- the result of a step with its pieces: the pieces' operations are the model's, every crash
point is safe, the crash invariant holds afterwards with the new window -/
structure StepOK (rj : Bool) (fs : FS) (pieces : List Piece) (ops : List FsOp) (s' : Snap) (win' : List RecState) : Prop where
  ops_eq : opsOf pieces = ops
  safe : PiecesSafe rj fs pieces
  ci : CI s' (fs.applyAll ops) win'
  rejoin : s'.rejoin = rj

theorem StepOK.nil {rj : Bool} {fs : FS} {s : Snap} {win : List RecState} (h : CI s fs win) (hr : s.rejoin = rj) :
    StepOK rj fs [] [] s win := ⟨rfl, trivial, h, hr⟩

theorem StepOK.append {rj : Bool} {fs : FS} {p1 p2 : List Piece} {o1 o2 : List FsOp} {s1 s2 : Snap} {w1 w2 : List RecState}
    (h1 : StepOK rj fs p1 o1 s1 w1) (h2 : StepOK rj (fs.applyAll o1) p2 o2 s2 w2) :
    StepOK rj fs (p1 ++ p2) (o1 ++ o2) s2 w2 := by
  refine ⟨by rw [opsOf_append, h1.ops_eq, h2.ops_eq], ?_, by rw [applyAll_append]; exact h2.ci, h2.rejoin⟩
  rw [PiecesSafe_append, h1.ops_eq]
  exact ⟨h1.safe, h2.safe⟩

theorem stepOK_record (ord : Order) (hord : PermOrder ord) (s : Snap) (fs : FS) (win : List RecState) (ln : Line)
    (hci : CI s fs win) (hln : WFLine ln) (hne : ln ≠ .leave) :
    StepOK s.rejoin fs (appendPieces ord (s.note ln) (printLine ln) win).1 (record ord s ln).2
        (record ord s ln).1 (appendPieces ord (s.note ln) (printLine ln) win).2 := by
  have ⟨⟨d, hd, hc⟩, hlv0, _⟩ := hci
  have hlv : (s.note ln).leaving = false := (note_leaving s hne).trans hlv0
  have hb := appendBytes_inv (s.note ln) fs d (printLine ln) hd (by rw [note_buf, note_rejoin]; exact hc.record hln)
  obtain ⟨hmem1, hrj, _⟩ := appendBytes_same (s.note ln) (printLine ln)
  have hpiece := appendBytes_piece s (s.note ln) fs win ln hci (note_buf s ln) (note_rejoin s ln) hln hb hlv
  have hrj1 : (appendBytes (s.note ln) (printLine ln)).1.rejoin = s.rejoin := hrj.trans (note_rejoin s ln)
  unfold record
  by_cases hcmp : (appendBytes (s.note ln) (printLine ln)).1.offset > maxSize (appendBytes (s.note ln) (printLine ln)).1
  · have hcp := compact_piece ord hord _ _ _ hpiece.2
    rw [hrj1, hmem1] at hcp
    rw [appendLine_of_gt ord _ _ hcmp]
    unfold appendPieces
    simp only [hcmp, ↓reduceIte]
    exact ⟨by simp [opsOf], ⟨hpiece.1, hcp.1, trivial⟩, by rw [applyAll_append]; exact hcp.2, hrj1⟩
  · rw [appendLine_of_le ord _ _ hcmp]
    unfold appendPieces
    simp only [hcmp, ↓reduceIte]
    refine ⟨by simp [opsOf], ⟨hpiece.1, trivial⟩, ?_, hrj1⟩
    split
    · rename_i hbuf
      have := CI_shrink hpiece.2 hbuf
      rw [hmem1] at this
      exact this
    · exact hpiece.2

def setClock (s : Snap) (x : Nat) : Snap := { s with lastClock := x }
def setEventClock (s : Snap) (x : Nat) : Snap := { s with lastEventClock := x }
def setQueryClock (s : Snap) (x : Nat) : Snap := { s with lastQueryClock := x }
def setAlive (s : Snap) (a : AMap) : Snap := { s with alive := a }

def updateClockPieces (ord : Order) (s : Snap) (clk : Nat) (win : List RecState) : List Piece × List RecState :=
  if lastSeenOf clk > s.lastClock then
    appendPieces ord (setClock s (lastSeenOf clk)) (printLine (.clock (lastSeenOf clk))) win
  else ([], win)

def joinPieces (ord : Order) : Snap → List (Name × Addr) → List RecState → List Piece × List RecState
  | _, [], win => ([], win)
  | s, (n, a) :: ms, win =>
    let p := appendPieces ord (setAlive s (ainsert s.alive n a)) (printLine (.alive n a)) win
    let q := joinPieces ord (appendLine ord (setAlive s (ainsert s.alive n a)) (printLine (.alive n a))).1 ms p.2
    (p.1 ++ q.1, q.2)

def gonePieces (ord : Order) : Snap → List Name → List RecState → List Piece × List RecState
  | _, [], win => ([], win)
  | s, n :: ns, win =>
    let p := appendPieces ord (setAlive s (aerase s.alive n)) (printLine (.notAlive n)) win
    let q := gonePieces ord (appendLine ord (setAlive s (aerase s.alive n)) (printLine (.notAlive n))).1 ns p.2
    (p.1 ++ q.1, q.2)

def seqPieces (p : List Piece × List RecState) (q : List RecState → List Piece × List RecState) : List Piece × List RecState :=
  (p.1 ++ (q p.2).1, (q p.2).2)

/-- the pieces of one event (a snapshotter that is not leaving; `leave` itself is outside C11) -/
def stepPieces (ord : Order) (s : Snap) (win : List RecState) : Ev → List Piece × List RecState
  | .join ms clk => seqPieces (joinPieces ord s ms win) (updateClockPieces ord (joinMembers ord s ms).1 clk)
  | .gone ns clk => seqPieces (gonePieces ord s ns win) (updateClockPieces ord (goneMembers ord s ns).1 clk)
  | .memberOther clk => updateClockPieces ord s clk win
  | .user lt =>
    if lt ≤ s.lastEventClock then ([], win)
    else appendPieces ord (setEventClock s lt) (printLine (.eventClock lt)) win
  | .query lt =>
    if lt ≤ s.lastQueryClock then ([], win)
    else appendPieces ord (setQueryClock s lt) (printLine (.queryClock lt)) win
  | .clockTick clk => updateClockPieces ord s clk win
  | .leave => ([⟨(step ord s .leave).2, win⟩], win)
  | .timePasses => ([], win)
  | .forceCompact => ([⟨(compact ord s).2, win⟩], [s.mem])

def runPieces (ord : Order) : Snap → List Ev → List RecState → List Piece × List RecState
  | _, [], win => ([], win)
  | s, e :: es, win =>
    let p := stepPieces ord s win e
    let q := runPieces ord (step ord s e).1 es p.2
    (p.1 ++ q.1, q.2)

def shutdownPieces (ord : Order) (s : Snap) (clk : Nat) (win : List RecState) : List Piece :=
  (updateClockPieces ord s clk win).1 ++
    [⟨flushOps .main (updateClock ord s clk).1.buf ++ [.sync .main, .close .main], (updateClockPieces ord s clk win).2⟩]

/-- all pieces of a life on a fresh directory: the first open, the events, the shutdown -/
def lifePieces (ord : Order) (rj : Bool) (mc : Nat) (evs : List Ev) (clk : Nat) : List Piece :=
  ⟨(Snap.init rj mc).2, [(Snap.init rj mc).1.mem]⟩ ::
    ((runPieces ord (Snap.init rj mc).1 evs [(Snap.init rj mc).1.mem]).1 ++
      shutdownPieces ord (run ord (Snap.init rj mc).1 evs).1 clk (runPieces ord (Snap.init rj mc).1 evs [(Snap.init rj mc).1.mem]).2)

/-- The pieces of recording a list of lines one by one: every event's pieces are these for `evLines` (`stepPieces_eq`),
so the proofs below speak of `recordPieces` only. -/
def recordPieces (ord : Order) : Snap → List Line → List RecState → List Piece × List RecState
  | _, [], win => ([], win)
  | s, ln :: lns, win =>
    let p := appendPieces ord (s.note ln) (printLine ln) win
    let q := recordPieces ord (record ord s ln).1 lns p.2
    (p.1 ++ q.1, q.2)

theorem stepOK_recordAll (ord : Order) (hord : PermOrder ord) (lns : List Line) :
    ∀ (s : Snap) (fs : FS) (win : List RecState), CI s fs win → (∀ ln ∈ lns, WFLine ln) → Line.leave ∉ lns →
      StepOK s.rejoin fs (recordPieces ord s lns win).1 (recordAll ord s lns).2 (recordAll ord s lns).1 (recordPieces ord s lns win).2 := by
  induction lns with
  | nil => intro s fs win h _ _; exact StepOK.nil h rfl
  | cons ln lns ih =>
    intro s fs win hci hw hn
    simp only [List.mem_cons, not_or] at hn
    have h1 := stepOK_record ord hord s fs win ln hci (hw ln List.mem_cons_self) (Ne.symm hn.1)
    have h2 := ih _ _ _ h1.ci (fun l hl => hw l (List.mem_cons_of_mem _ hl)) hn.2
    rw [h1.rejoin] at h2
    exact StepOK.append h1 h2

theorem recordPieces_append (ord : Order) (a b : List Line) : ∀ (s : Snap) (win : List RecState),
    recordPieces ord s (a ++ b) win =
      seqPieces (recordPieces ord s a win) (recordPieces ord (recordAll ord s a).1 b) := by
  induction a with
  | nil => intro s win; simp [recordPieces, seqPieces, recordAll]
  | cons l a ih => intro s win; simp only [List.cons_append, recordPieces, ih, seqPieces, recordAll, List.append_assoc]

theorem recordPieces_singleton (ord : Order) (s : Snap) (ln : Line) (win : List RecState) :
    recordPieces ord s [ln] win = appendPieces ord (s.note ln) (printLine ln) win := by
  simp only [recordPieces, List.append_nil]

theorem updateClockPieces_eq (ord : Order) (s : Snap) (clk : Nat) :
    updateClockPieces ord s clk = recordPieces ord s (clockLines s clk) := by
  funext win
  unfold updateClockPieces clockLines
  rw [apply_ite (fun l => recordPieces ord s l win), recordPieces_singleton]
  rfl

theorem joinPieces_eq (ord : Order) (ms : List (Name × Addr)) : ∀ (s : Snap) (win : List RecState),
    joinPieces ord s ms win = recordPieces ord s (ms.map fun p => .alive p.1 p.2) win := by
  induction ms with
  | nil => intro s win; rfl
  | cons p ms ih => intro s win; obtain ⟨n, a⟩ := p; simp only [joinPieces, List.map_cons, recordPieces, ih]; rfl

theorem gonePieces_eq (ord : Order) (ns : List Name) : ∀ (s : Snap) (win : List RecState),
    gonePieces ord s ns win = recordPieces ord s (ns.map .notAlive) win := by
  induction ns with
  | nil => intro s win; rfl
  | cons n ns ih => intro s win; simp only [gonePieces, List.map_cons, recordPieces, ih]; rfl

theorem stepPieces_eq (ord : Order) (s : Snap) (win : List RecState) (ev : Ev) (hl : s.leaving = false)
    (h1 : ev ≠ .leave) (h2 : ev ≠ .forceCompact) : stepPieces ord s win ev = recordPieces ord s (evLines s ev) win := by
  have hl' : ¬ s.leaving = true := by rw [hl]; exact Bool.false_ne_true
  cases ev with
  | join ms clk =>
    rw [evLines, if_neg hl', recordPieces_append, stepPieces, updateClockPieces_eq, joinPieces_eq, joinMembers_eq,
      clockLines_after ord s _ (aliveLines_ne_clock ms)]
  | gone ns clk =>
    rw [evLines, if_neg hl', recordPieces_append, stepPieces, updateClockPieces_eq, gonePieces_eq, goneMembers_eq,
      clockLines_after ord s _ (goneLines_ne_clock ns)]
  | memberOther clk => rw [evLines, if_neg hl', ← updateClockPieces_eq]; rfl
  | user lt =>
    rw [evLines, if_neg hl', apply_ite (fun l => recordPieces ord s l win), recordPieces_singleton]
    rfl
  | query lt =>
    rw [evLines, if_neg hl', apply_ite (fun l => recordPieces ord s l win), recordPieces_singleton]
    rfl
  | clockTick clk => rw [evLines, ← updateClockPieces_eq]; rfl
  | leave => exact absurd rfl h1
  | timePasses => rfl
  | forceCompact => exact absurd rfl h2

theorem stepOK_step (ord : Order) (hord : PermOrder ord) (s : Snap) (fs : FS) (win : List RecState) (ev : Ev)
    (hev : WFEv ev) (hne : ev ≠ .leave) (hci : CI s fs win) :
    StepOK s.rejoin fs (stepPieces ord s win ev).1 (step ord s ev).2 (step ord s ev).1 (stepPieces ord s win ev).2 := by
  by_cases hc : ev = .forceCompact
  · subst hc
    have := compact_piece ord hord s fs win hci
    exact ⟨List.append_nil _, ⟨this.1, trivial⟩, this.2, rfl⟩
  · have ⟨_, hlv, _⟩ := hci
    rw [stepPieces_eq ord s win ev hlv hne hc, step_eq]
    split
    · exact absurd rfl hne
    · exact ⟨rfl, trivial, hci, rfl⟩
    · exact absurd rfl hc
    · exact stepOK_recordAll ord hord _ s fs win hci (evLines_wf s hev) (leave_not_mem_evLines s hne)

theorem stepOK_run (ord : Order) (hord : PermOrder ord) (evs : List Ev) :
    ∀ (s : Snap) (fs : FS) (win : List RecState), (∀ e ∈ evs, WFEv e) → Ev.leave ∉ evs → CI s fs win →
      StepOK s.rejoin fs (runPieces ord s evs win).1 (run ord s evs).2 (run ord s evs).1 (runPieces ord s evs win).2 := by
  induction evs with
  | nil => intro s fs win _ _ h; rw [run_nil]; exact StepOK.nil h rfl
  | cons e es ih =>
    intro s fs win hw hn hci
    simp only [List.mem_cons, not_or] at hn
    have h1 := stepOK_step ord hord s fs win e (hw e List.mem_cons_self) (fun x => hn.1 x.symm) hci
    have h2 := ih _ _ _ (fun x hx => hw x (List.mem_cons_of_mem _ hx)) hn.2 h1.ci
    rw [h1.rejoin] at h2
    rw [run_cons]
    simp only [runPieces]
    exact StepOK.append h1 h2

-- stated for variables `q`, `r` (in `shutdown_pieces_safe`: the pieces and the result of `updateClock`), so that the
-- kernel never reduces a projection of `updateClock …` (see `shutdown_inv`)
theorem final_flush_safe (rj : Bool) (fs : FS) (q : List Piece × List RecState) (r : Snap × List FsOp)
    (h1 : StepOK rj fs q.1 r.2 r.1 q.2) :
    opsOf (q.1 ++ [⟨flushOps .main r.1.buf ++ [.sync .main, .close .main], q.2⟩]) =
        r.2 ++ flushOps .main r.1.buf ++ [.sync .main, .close .main] ∧
      PiecesSafe rj fs (q.1 ++ [⟨flushOps .main r.1.buf ++ [.sync .main, .close .main], q.2⟩]) := by
  have hf := flush_piece h1.ci [.sync .main, .close .main]
    (by intro o ho; simp at ho; rcases ho with rfl | rfl <;> exact ⟨rfl, rfl⟩)
  rw [h1.rejoin] at hf
  rw [opsOf_append, PiecesSafe_append, h1.ops_eq]
  exact ⟨by simp [opsOf], h1.safe, hf, trivial⟩

theorem shutdown_pieces_safe (ord : Order) (hord : PermOrder ord) (s : Snap) (fs : FS) (win : List RecState) (clk : Nat)
    (hci : CI s fs win) :
    opsOf (shutdownPieces ord s clk win) = (shutdown ord s clk).2 ∧ PiecesSafe s.rejoin fs (shutdownPieces ord s clk win) := by
  have h1 := stepOK_recordAll ord hord _ s fs win hci (clockLines_wf s clk) (fun h => Line.noConfusion (mem_clockLines h))
  rw [← updateClock_eq, ← updateClockPieces_eq] at h1
  exact final_flush_safe s.rejoin fs (updateClockPieces ord s clk win) (updateClock ord s clk) h1

theorem init_piece_safe (rj : Bool) (mc : Nat) :
    ∀ k cut, Rec rj [(Snap.init rj mc).1.mem] (recoverFile (FS.crashAt {} (Snap.init rj mc).2 k cut)) := by
  intro k cut
  have h0 : (Snap.init rj mc).2 = [.openAppend .main] := rfl
  have hfile : recoverFile (FS.crashAt {} [.openAppend .main] k cut) = [] := by
    cases k with
    | zero => rfl
    | succ k => rw [crashAt_cons_succ, crashAt_nil]; rfl
  rw [h0, hfile]
  exact ⟨(Snap.init rj mc).1.mem, by simp, ⟨fun _ => rfl, rfl, rfl, rfl⟩⟩

theorem life_pieces_safe (ord : Order) (hord : PermOrder ord) (rj : Bool) (mc : Nat) (evs : List Ev) (clk : Nat)
    (hwf : ∀ e ∈ evs, WFEv e) (hnl : Ev.leave ∉ evs) :
    opsOf (lifePieces ord rj mc evs clk) = (life ord rj mc {} evs clk).2 ∧
    PiecesSafe rj {} (lifePieces ord rj mc evs clk) := by
  have hr := stepOK_run ord hord evs (Snap.init rj mc).1 _ _ hwf hnl (CI_init rj mc)
  rw [init_rejoin] at hr
  have hs := shutdown_pieces_safe ord hord _ _ _ clk hr.ci
  rw [hr.rejoin] at hs
  unfold lifePieces
  constructor
  · rw [opsOf_cons, opsOf_append, hr.ops_eq, hs.1, life_fresh_snd, List.append_assoc]
  · refine ⟨init_piece_safe rj mc, ?_⟩
    rw [PiecesSafe_append, hr.ops_eq]
    exact ⟨hr.safe, hs.2⟩

theorem PiecesSafe_get {rj : Bool} {ps : List Piece} : ∀ {fs : FS}, PiecesSafe rj fs ps →
    ∀ (i : Nat) (hi : i < ps.length) (k cut : Nat),
      Rec rj ps[i].win (recoverFile (FS.crashAt (fs.applyAll (opsOf (ps.take i))) ps[i].ops k cut)) := by
  induction ps with
  | nil => intro fs _ i hi; simp at hi
  | cons p t ih =>
    intro fs h i hi k cut
    cases i with
    | zero => simpa [opsOf, FS.applyAll] using h.1 k cut
    | succ i =>
      have := ih h.2 i (by simpa using hi) k cut
      simpa [opsOf_cons, applyAll_append] using this

/-- every crash point of the flat operation list falls into some piece -/
theorem PiecesSafe_flat {rj : Bool} {ps : List Piece} : ∀ {fs : FS}, PiecesSafe rj fs ps → ps ≠ [] →
    ∀ (k cut : Nat), ∃ p ∈ ps, Rec rj p.win (recoverFile (FS.crashAt fs (opsOf ps) k cut)) := by
  induction ps with
  | nil => intro fs _ hne; exact absurd rfl hne
  | cons p t ih =>
    intro fs h _ k cut
    rw [opsOf_cons]
    by_cases hk : k < p.ops.length
    · rw [crashAt_append_lt hk]
      exact ⟨p, List.mem_cons_self, h.1 k cut⟩
    · rw [crashAt_append_ge (by omega)]
      by_cases ht : t = []
      · subst ht
        rw [opsOf_nil, crashAt_nil]
        have := h.1 p.ops.length cut
        rw [crashAt_of_length_le (Nat.le_refl _)] at this
        exact ⟨p, List.mem_cons_self, this⟩
      · obtain ⟨q, hq, hr⟩ := ih h.2 ht (k - p.ops.length) cut
        exact ⟨q, List.mem_cons_of_mem _ hq, hr⟩

end SerfProofs.Snapshot
