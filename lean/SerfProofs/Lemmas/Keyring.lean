/-
Lemmas about the memberlist keyring model (C22).  `installKeys` of distinct valid keys is a
well-formed ring, so each of the three operations keeps `RingOK`; on a ring without duplicates
`installKeys` under the current primary keeps the order, so `NewKeyring(keys, keys[0])` rebuilds
a well-formed key list exactly; and whatever the loader accepts is well-formed.
-/
import SerfModel.Model.Keyring
namespace SerfProofs.Keyring
open SerfModel.Keyring

theorem mem_installKeys (keys : List Key) (p x : Key) : x ∈ installKeys keys p ↔ x = p ∨ x ∈ keys := by
  by_cases h : x = p <;> simp [installKeys, h]

theorem RingOK_installKeys {keys : List Key} {p : Key} (hnd : keys.Nodup) (hv : ∀ k ∈ keys, validKey k = true)
    (hp : validKey p = true) : RingOK (installKeys keys p) := by
  refine ⟨List.cons_ne_nil _ _, ?_, fun x hx => ?_⟩
  · exact List.nodup_cons.mpr ⟨by simp, hnd.filter _⟩
  · rcases (mem_installKeys keys p x).mp hx with rfl | hx
    · exact hp
    · exact hv x hx

theorem installKeys_self (p : Key) (rest : List Key) (h : (p :: rest).Nodup) :
    installKeys (p :: rest) p = p :: rest := by
  have hp : ∀ a ∈ rest, a ≠ p := fun a ha e => (List.nodup_cons.mp h).1 (e ▸ ha)
  simpa [installKeys, List.filter_eq_self] using hp

theorem addKey_invalid (r : Ring) (k : Key) (hv : validKey k = false) : addKey r k = .error .badlen := by
  simp [addKey, hv]

theorem addKey_existing (r : Ring) (k : Key) (hv : validKey k = true) (hk : k ∈ r) : addKey r k = .ok r := by
  simp [addKey, hv, hk]

theorem addKey_new (r : Ring) (k : Key) (hnd : (r ++ [k]).Nodup) (hv : validKey k = true) :
    addKey r k = .ok (r ++ [k]) := by
  have hk : k ∉ r := fun hmem => (List.nodup_append.mp hnd).2.2 k hmem k (by simp) rfl
  cases r with
  | nil => simpa [addKey, hv] using installKeys_self k [] hnd
  | cons p rest => simpa [addKey, hv, hk] using installKeys_self p (rest ++ [k]) hnd

theorem removeKey_ok (p : Key) (rest : List Key) (k : Key) (h : (p :: rest).Nodup) (hne : k ≠ p) :
    removeKey (p :: rest) k = .ok (p :: rest.erase k) := by
  have he : (p :: rest).erase k = p :: rest.erase k := by simp [Ne.symm hne]
  simp only [removeKey, beq_iff_eq, hne, if_false, he]
  split
  · rw [installKeys_self p _ (he ▸ h.erase k)]
  next hc => rw [List.erase_of_not_mem fun hm => hc (by simp [hm])]

theorem RingOK_addKey {r r' : Ring} {k : Key} (hr : RingOK r) (h : addKey r k = .ok r') :
    RingOK r' ∧ validKey k = true := by
  cases hv : validKey k
  · rw [addKey_invalid r k hv] at h
    cases h
  · refine ⟨?_, rfl⟩
    by_cases hk : k ∈ r
    · rw [addKey_existing r k hv hk] at h
      cases h
      exact hr
    · have hnd : (r ++ [k]).Nodup := by
        refine List.nodup_append.mpr ⟨hr.2.1, by simp, fun a ha b hb e => hk ?_⟩
        rw [← List.mem_singleton.mp hb, ← e]
        exact ha
      rw [addKey_new r k hnd hv] at h
      cases h
      refine ⟨by simp, hnd, fun x hx => ?_⟩
      rcases List.mem_append.mp hx with hx | hx
      · exact hr.2.2 x hx
      · rw [List.mem_singleton.mp hx]
        exact hv

theorem RingOK_useKey {r r' : Ring} {k : Key} (hr : RingOK r) (h : useKey r k = .ok r') : RingOK r' := by
  unfold useKey at h
  split at h
  next hc => cases h; exact RingOK_installKeys hr.2.1 hr.2.2 (hr.2.2 k (List.contains_iff_mem.mp hc))
  · cases h

theorem RingOK_removeKey {r r' : Ring} {k : Key} (hr : RingOK r) (h : removeKey r k = .ok r') : RingOK r' := by
  unfold removeKey at h
  split at h
  · exact absurd rfl hr.1
  next p rest =>
    split at h
    · cases h
    · split at h
      · cases h
        exact RingOK_installKeys (hr.2.1.erase k) (fun x hx => hr.2.2 x (List.mem_of_mem_erase hx))
          (hr.2.2 p (by simp))
      · cases h; exact hr

/-- the keyring operation behind a request -/
def ringOp : Op → Ring → Key → Except Status Ring
  | .install => addKey
  | .use => useKey
  | .remove => removeKey

theorem RingOK_ringOp {op : Op} {r r' : Ring} {k : Key} (hr : RingOK r) (h : ringOp op r k = .ok r') :
    RingOK r' := by
  cases op
  · exact (RingOK_addKey hr h).1
  · exact RingOK_useKey hr h
  · exact RingOK_removeKey hr h

theorem ringOp_error_ne_ok {op : Op} {r : Ring} {k : Key} {e : Status} (h : ringOp op r k = .error e) :
    e ≠ .ok := by
  -- every `.error` of `addKey`, `useKey`, `removeKey` carries a literal status, none of them `.ok`
  rintro rfl
  cases op
  · simp only [ringOp, addKey] at h
    split at h
    · cases h
    · split at h <;> cases h
  · simp only [ringOp, useKey] at h
    split at h <;> cases h
  · simp only [ringOp, removeKey] at h
    split at h
    · cases h
    · split at h
      · cases h
      · split at h <;> cases h

theorem addKey?_eq_some {r r' : Ring} {k : Key} : addKey? r k = some r' ↔ addKey r k = .ok r' := by
  unfold addKey?
  cases addKey r k <;> simp [Except.toOption]

theorem foldlM_invariant {α β : Type} {f : β → α → Option β} {P : β → Prop} {Q : α → Prop}
    (hstep : ∀ b a b', P b → f b a = some b' → P b' ∧ Q a) :
    ∀ (l : List α) (b r : β), P b → l.foldlM f b = some r → P r ∧ ∀ a ∈ l, Q a := by
  intro l
  induction l with
  | nil => intro b r hb h; cases h; exact ⟨hb, by simp⟩
  | cons a l ih =>
    intro b r hb h
    obtain ⟨b', hb', h⟩ := Option.bind_eq_some_iff.mp h
    obtain ⟨h1, h2⟩ := hstep b a b' hb hb'
    obtain ⟨h3, h4⟩ := ih b' r h1 h
    exact ⟨h3, by simpa [h2] using h4⟩

/-- `NewKeyring(keys, keys[0])` adds the primary to the empty ring, then every key of the file, first the
primary again (a no-op). -/
theorem load_cons (p : Key) (rest : List Key) :
    load (p :: rest) = if validKey p then rest.foldlM addKey? [p] else none := by
  have h0 : load (p :: rest) = if p.isEmpty then none else (p :: p :: rest).foldlM addKey? [] := rfl
  rw [h0, List.foldlM_cons]
  cases hv : validKey p
  · rw [addKey?, addKey_invalid [] p hv]
    cases p.isEmpty <;> rfl
  · have h1 : addKey? [] p = some [p] := addKey?_eq_some.mpr (addKey_new [] p (by simp) hv)
    have h2 : addKey? [p] p = some [p] := addKey?_eq_some.mpr (addKey_existing [p] p hv (by simp))
    have hpe : p.isEmpty = false := by
      cases p with
      | nil => cases hv
      | cons _ _ => rfl
    simp only [hpe, h1, h2, List.foldlM_cons, Option.bind_eq_bind, Option.bind_some, Bool.false_eq_true, if_false, if_true]

theorem load_some {f : List Key} {r : Ring} (h : load f = some r) : RingOK r ∧ ∀ k ∈ f, validKey k = true := by
  cases f with
  | nil => cases h
  | cons p rest =>
    rw [load_cons] at h
    split at h
    next hp =>
      have := foldlM_invariant (P := RingOK) (Q := (validKey · = true))
        (fun b k b' hb hk => RingOK_addKey hb (addKey?_eq_some.mp hk)) rest [p] r
        ⟨by simp, by simp, by simpa using hp⟩ h
      exact ⟨this.1, by simpa [hp] using this.2⟩
    · cases h

theorem foldlM_addKey (l : List Key) (acc : Ring) (hnd : (acc ++ l).Nodup) (hv : ∀ k ∈ l, validKey k = true) :
    l.foldlM addKey? acc = some (acc ++ l) := by
  induction l generalizing acc with
  | nil => simp
  | cons k rest ih =>
    have hnd' : (acc ++ [k] ++ rest).Nodup := by simpa using hnd
    rw [List.foldlM_cons, addKey?_eq_some.mpr (addKey_new acc k (List.nodup_append.mp hnd').1 (hv k (by simp)))]
    simpa using ih (acc ++ [k]) hnd' (fun x hx => hv x (List.mem_cons_of_mem _ hx))

end SerfProofs.Keyring
