/-
Whole-history crash safety of the snapshotter model: at EVERY crash point (every prefix
of the emitted operation list, every byte cut of the write in progress) a restart
recovers — up to the order of the alive map — one of the in-memory states the node went
through since the last point at which nothing was buffered, up to the state it is
recording at that moment.

The crash invariant `CI` carries that window of states: every byte string from the snapshot
file to the logical file (file ++ buffer) replays to a state of the window (`CI_iff`).  An
append extends the logical file by a line and the window by the new state; a crash during an
append, a flush or the first stretch of a compaction leaves such a byte string on disk.
-/
import SerfProofs.Lemmas.SnapshotCrash
namespace SerfProofs.Snapshot
open SerfModel SerfModel.Snapshot

/-- `file` replays, up to the order of the alive map, to a state of the window -/
def Rec (rj : Bool) (win : List RecState) (file : Bytes) : Prop := ∃ m ∈ win, RecEq (replay rj file) m

theorem Rec.mono {rj : Bool} {w w' : List RecState} {f : Bytes} (h : Rec rj w f) (hs : ∀ m ∈ w, m ∈ w') : Rec rj w' f := by
  obtain ⟨m, hm, he⟩ := h; exact ⟨m, hs m hm, he⟩

def flat (ls : List Line) : Bytes := ls.flatMap printLine

theorem flat_append (a b : List Line) : flat (a ++ b) = flat a ++ flat b := by simp [flat]
theorem flat_single (l : Line) : flat [l] = printLine l := by simp [flat]

/-- The C10 invariant, plus: the snapshot file is `base` (what the last compaction / the start
left, newline-terminated) followed by a byte prefix of the lines appended since; the rest of
those lines is in the bufio buffer; every longer prefix replays to a state of the window. -/
def CI (s : Snap) (fs : FS) (win : List RecState) : Prop :=
  Inv s fs ∧ s.leaving = false ∧ s.mem ∈ win ∧
  ∃ (base : Bytes) (ls : List Line) (c : Nat), endsNL base = true ∧ (∀ l ∈ ls, WFLine l) ∧ c ≤ (flat ls).length ∧
    fs.main = some (base ++ (flat ls).take c) ∧ s.buf = (flat ls).drop c ∧
    ∀ c', c ≤ c' → Rec s.rejoin win (base ++ (flat ls).take c')

/-- `CI` without positions: the snapshot file `d` begins with `base`, the logical file `d ++ s.buf` is `base` followed
by whole lines, and every byte string from the one to the other replays to a state of the window. -/
theorem CI_iff {s : Snap} {fs : FS} {win : List RecState} : CI s fs win ↔ Inv s fs ∧ s.leaving = false ∧ s.mem ∈ win ∧
    ∃ (d base : Bytes) (ls : List Line), fs.main = some d ∧ endsNL base = true ∧ (∀ l ∈ ls, WFLine l) ∧ base <+: d ∧
      d ++ s.buf = base ++ flat ls ∧ ∀ p, d <+: p → p <+: d ++ s.buf → Rec s.rejoin win p := by
  constructor
  · rintro ⟨hinv, hl, hm, base, ls, c, hb, hls, hc, hd, hsb, hcl⟩
    refine ⟨hinv, hl, hm, _, base, ls, hd, hb, hls, List.prefix_append _ _, ?_, ?_⟩
    · rw [hsb, List.append_assoc, List.take_append_drop]
    · intro p h1 h2
      rw [hsb, List.append_assoc, List.take_append_drop] at h2
      obtain ⟨t, rfl⟩ := (List.prefix_append _ _).trans h1
      rw [List.prefix_append_right_inj] at h1 h2
      rw [List.prefix_iff_eq_take.mp h2]
      have := h1.length_le
      rw [List.length_take, Nat.min_eq_left hc] at this
      exact hcl _ this
  · rintro ⟨hinv, hl, hm, d, base, ls, hd, hb, hls, ⟨t, rfl⟩, hcat, hcl⟩
    rw [List.append_assoc, List.append_cancel_left_eq] at hcat
    have ht : t = (flat ls).take t.length := List.prefix_iff_eq_take.mp ⟨_, hcat⟩
    refine ⟨hinv, hl, hm, base, ls, t.length, hb, hls, by rw [← hcat]; simp, by rw [← ht]; exact hd, by rw [← hcat]; simp, ?_⟩
    intro c' hc'
    refine hcl _ ((List.prefix_append_right_inj _).mpr ?_) ?_
    · rw [ht]; exact List.take_prefix_take_left hc'
    · rw [List.append_assoc, hcat]; exact (List.prefix_append_right_inj _).mpr (List.take_prefix _ _)

theorem Inv.full {s : Snap} {fs : FS} (h : Inv s fs) (hl : s.leaving = false) {d : Bytes} (hd : fs.main = some d) :
    RecEq (replay s.rejoin (d ++ s.buf)) s.mem := by
  obtain ⟨_, _, hA, hC⟩ := h.core hd
  exact ⟨hA, hC (Or.inl hl)⟩

theorem CI_quiet {s : Snap} {fs : FS} (hinv : Inv s fs) (hl : s.leaving = false) (hbuf : s.buf = []) (base : Bytes) (ls : List Line)
    (hb : endsNL base = true) (hls : ∀ l ∈ ls, WFLine l) (hd : fs.main = some (base ++ flat ls)) : CI s fs [s.mem] := by
  have hfull := hinv.full hl hd
  rw [hbuf, List.append_nil] at hfull
  refine ⟨hinv, hl, List.mem_singleton_self _, base, ls, (flat ls).length, hb, hls, Nat.le_refl _, ?_, ?_, fun c' hc' => ?_⟩
  · rw [List.take_length]; exact hd
  · rw [hbuf, List.drop_length]
  · rw [List.take_of_length_le hc']; exact ⟨s.mem, List.mem_singleton_self _, hfull⟩

theorem CI_shrink {s : Snap} {fs : FS} {win : List RecState} (h : CI s fs win) (hbuf : s.buf = []) : CI s fs [s.mem] := by
  obtain ⟨hinv, hl, _, d, base, ls, hd, hb, hls, _, hcat, _⟩ := CI_iff.mp h
  rw [hbuf, List.append_nil] at hcat
  exact CI_quiet hinv hl hbuf base ls hb hls (hcat ▸ hd)

theorem CI_init (rj : Bool) (mc : Nat) :
    CI (Snap.init rj mc).1 (({} : FS).applyAll (Snap.init rj mc).2) [(Snap.init rj mc).1.mem] :=
  CI_quiet (init_inv rj mc) rfl rfl [] [] rfl nofun rfl

/-- One more line `ln` after the logical file `F`: a byte string that ends inside the new line replays as `F` does,
the whole of it to the new state `m'`. -/
theorem between_append_line (rj : Bool) (d F : Bytes) (ln : Line) (win : List RecState) (m' : RecState)
    (hF : endsNL F = true) (hln : WFLine ln) (hdF : d <+: F)
    (hold : ∀ p, d <+: p → p <+: F → Rec rj win p)
    (hfull : RecEq (replay rj (F ++ printLine ln)) m') :
    ∀ p, d <+: p → p <+: F ++ printLine ln → Rec rj (win ++ [m']) p := by
  intro p h1 h2
  rcases List.prefix_or_prefix_of_prefix h2 (List.prefix_append F _) with h | ⟨t, rfl⟩
  · exact (hold p h1 h).mono (fun m hm => List.mem_append_left _ hm)
  · rcases List.prefix_concat_iff.mp ((List.prefix_append_right_inj F).mp h2) with rfl | ht
    · exact ⟨m', by simp, hfull⟩
    · unfold Rec
      rw [replay_torn_tail rj F t hF (fun hm => printBody_noNL ln hln (ht.mem hm))]
      exact (hold F hdF List.prefix_rfl).mono (fun m hm => List.mem_append_left _ hm)

/-- The writes of one append (`buffered.WriteString`, the periodic flush); `s1` is `s` with the in-memory change applied. -/
theorem appendBytes_piece (s s1 : Snap) (fs : FS) (win : List RecState) (ln : Line)
    (hci : CI s fs win) (hbuf : s1.buf = s.buf) (hrj : s1.rejoin = s.rejoin) (hln : WFLine ln)
    (hinv' : Inv (appendBytes s1 (printLine ln)).1 (fs.applyAll (appendBytes s1 (printLine ln)).2))
    (hlv : s1.leaving = false) :
    (∀ k cut, Rec s.rejoin (win ++ [s1.mem]) (recoverFile (FS.crashAt fs (appendBytes s1 (printLine ln)).2 k cut))) ∧
    CI (appendBytes s1 (printLine ln)).1 (fs.applyAll (appendBytes s1 (printLine ln)).2) (win ++ [s1.mem]) := by
  obtain ⟨hinv, _, _, d, base, ls, hd, hb, hls, hbd, hcat, hcl⟩ := CI_iff.mp hci
  obtain ⟨hmao, hW⟩ := appendBytes_ops s1 (printLine ln)
  have hmain' := applyAll_mainAppendOnly _ hmao fs d hd
  obtain ⟨hmem1, hrj1, hlv1⟩ := appendBytes_same s1 (printLine ln)
  generalize (appendBytes s1 (printLine ln)).2 = ops at *
  generalize (appendBytes s1 (printLine ln)).1 = r1 at *
  rw [hbuf] at hW
  -- the logical file afterwards is the logical file before with the line appended
  have hwhole : d ++ ops.flatMap payload ++ r1.buf = d ++ s.buf ++ printLine ln := by
    rw [List.append_assoc, hW, List.append_assoc]
  have hfull : RecEq (replay s.rejoin (d ++ s.buf ++ printLine ln)) s1.mem := by
    have := hinv'.full (hlv1.trans hlv) hmain'
    rwa [hmem1, hrj1, hrj, hwhole] at this
  have hclause := between_append_line s.rejoin d (d ++ s.buf) ln win s1.mem (hinv.core hd).1 hln (List.prefix_append _ _) hcl hfull
  constructor
  · intro k cut
    obtain ⟨w, hw, _, hx⟩ := crashAt_mainAppendOnly ops hmao fs d k cut hd
    rw [recoverFile_of_main hx]
    refine hclause _ (List.prefix_append _ _) ?_
    rw [← hwhole, List.append_assoc]
    exact (List.prefix_append_right_inj d).mpr (hw.trans (List.prefix_append _ _))
  · refine CI_iff.mpr ⟨hinv', hlv1.trans hlv, by rw [hmem1]; simp, _, base, ls ++ [ln], hmain', hb, ?_,
      hbd.trans (List.prefix_append _ _), ?_, ?_⟩
    · intro l hl
      rcases List.mem_append.mp hl with hl | hl
      · exact hls l hl
      · rw [List.mem_singleton.mp hl]; exact hln
    · rw [hwhole, hcat, flat_append, flat_single, List.append_assoc]
    · intro p h1 h2
      rw [hrj1, hrj]
      exact hclause p ((List.prefix_append _ _).trans h1) (by rwa [hwhole] at h2)

theorem flush_piece {s : Snap} {fs : FS} {win : List RecState} (hci : CI s fs win) (tail : List FsOp)
    (htail : ∀ o ∈ tail, mainAppendOnly o = true ∧ payload o = []) (k cut : Nat) :
    Rec s.rejoin win (recoverFile (FS.crashAt fs (flushOps .main s.buf ++ tail) k cut)) := by
  obtain ⟨_, _, _, d, _, _, hd, _, _, _, _, hcl⟩ := CI_iff.mp hci
  have hmao : ∀ o ∈ flushOps .main s.buf ++ tail, mainAppendOnly o = true := by
    intro o ho
    rcases List.mem_append.mp ho with ho | ho
    · exact mainAppendOnly_flushOps _ o ho
    · exact (htail o ho).1
  obtain ⟨w, hw, _, hx⟩ := crashAt_mainAppendOnly _ hmao fs d k cut hd
  rw [List.flatMap_append, payload_flushOps, List.flatMap_eq_nil_iff.mpr (fun o ho => (htail o ho).2), List.append_nil] at hw
  rw [recoverFile_of_main hx]
  exact hcl _ (List.prefix_append _ _) ((List.prefix_append_right_inj d).mpr hw)

theorem compact_piece (ord : Order) (hord : PermOrder ord) (s : Snap) (fs : FS) (win : List RecState) (hci : CI s fs win) :
    (∀ k cut, Rec s.rejoin win (recoverFile (FS.crashAt fs (compact ord s).2 k cut))) ∧
    CI (compact ord s).1 (fs.applyAll (compact ord s).2) [s.mem] := by
  obtain ⟨hinv, hl, hmem, d, _, _, hd, _, _, _, _, hcl⟩ := CI_iff.mp hci
  have hinvC := compact_inv ord hord s fs hinv.wf
  obtain ⟨hmemC, hrjC, hlvC⟩ := compact_same ord s
  have hmainC : (fs.applyAll (compact ord s).2).main = some (compactLines ord s).flatten := by rw [compact_result_fs]
  have hlC := hlvC.trans hl
  have hrec := hinvC.full hlC hmainC
  rw [show (compact ord s).1.buf = [] from rfl, List.append_nil, hmemC, hrjC] at hrec
  constructor
  · intro k cut
    rcases compact_crashAt ord s fs d hd k cut with ⟨w, hw, _, h⟩ | ⟨h1, h2⟩ | h
    · rw [recoverFile_of_main h]
      exact hcl _ (List.prefix_append _ _) ((List.prefix_append_right_inj d).mpr hw)
    · rw [recoverFile_of_none h1 h2]
      exact ⟨s.mem, hmem, hrec⟩
    · rw [recoverFile_of_main h]
      exact ⟨s.mem, hmem, hrec⟩
  · rw [← hmemC]
    refine CI_quiet hinvC hlC rfl _ [] ?_ nofun (by rw [hmainC]; exact congrArg some (List.append_nil _).symm)
    rw [compactLines_flatten]
    exact endsNL_flatMap_printLine _

end SerfProofs.Snapshot
