/-
Every step of the snapshotter model preserves the snapshot invariant
(Lemmas/SnapshotWriter.lean).  An event changes the memory and appends the line that
records the change, zero or more times: `Snap.note` is the change a line records,
`record` the change followed by the append, `evLines` the lines of an event, and
`step_eq` says that this is what `step` does.  The memory after a step is that of its
lines, whatever the I/O does (`SameMem (s.noteEv ev) (step ord s ev).1`).
-/
import SerfProofs.Lemmas.SnapshotWriter
namespace SerfProofs.Snapshot
open SerfModel SerfModel.Snapshot

def WFEv : Ev → Prop
  | .join ms _ => ∀ p ∈ ms, WFName p.1 ∧ WFAddr p.2
  | .gone ns _ => ∀ n ∈ ns, WFName n
  | .user lt => lt < U64
  | .query lt => lt < U64
  | _ => True

instance (e : Ev) : Decidable (WFEv e) := by
  cases e <;> unfold WFEv U64 <;> infer_instance

theorem lastSeenOf_lt (clk : Nat) : lastSeenOf clk < U64 := by
  unfold lastSeenOf U64
  exact Nat.mod_lt _ (Nat.zero_lt_succ _)

-- never let the unifier look inside `lastSeenOf` (it would evaluate `% 2^64` in unary); the kernel does not know
-- of this attribute: see `updateClock_eq` and `shutdown_inv` for what that asks of the proofs
attribute [local irreducible] lastSeenOf

/-- The assignment that precedes `tryAppend` of the line in snapshot.go (processMemberEvent, updateClock,
processUserEvent, processQuery, the `leaveCh` branch of stream()). -/
def _root_.SerfModel.Snapshot.Snap.note (s : Snap) : Line → Snap
  | .alive n a => { s with alive := ainsert s.alive n a }
  | .notAlive n => { s with alive := aerase s.alive n }
  | .clock t => { s with lastClock := t }
  | .eventClock t => { s with lastEventClock := t }
  | .queryClock t => { s with lastQueryClock := t }
  | .leave => { s with leaving := true, alive := if s.rejoin then s.alive else [] }

theorem note_buf (s : Snap) (ln : Line) : (s.note ln).buf = s.buf := by cases ln <;> rfl
theorem note_rejoin (s : Snap) (ln : Line) : (s.note ln).rejoin = s.rejoin := by cases ln <;> rfl
theorem note_leaving (s : Snap) {ln : Line} (h : ln ≠ .leave) : (s.note ln).leaving = s.leaving := by
  cases ln <;> first | rfl | exact absurd rfl h

/-- the memory follows the log; only a leave does not (it keeps the clocks that replay forgets) -/
theorem note_mem (s : Snap) {ln : Line} (h : ln ≠ .leave) : (s.note ln).mem = applyLine s.rejoin s.mem ln := by
  cases ln <;> first | rfl | exact absurd rfl h

theorem note_leave_mem (s : Snap) : (s.note .leave).mem = { s.mem with alive := if s.rejoin then s.mem.alive else [] } := rfl

theorem WFRec.note {s : Snap} (h : WFRec s.mem) {ln : Line} (hln : WFLine ln) (hne : ln ≠ .leave) : WFRec (s.note ln).mem := by
  rw [note_mem s hne]; exact h.applyLine _ hln

theorem SameMem.note {a b : Snap} (h : SameMem a b) (ln : Line) : SameMem (a.note ln) (b.note ln) := by
  by_cases hl : ln = .leave
  · subst hl
    exact ⟨by rw [note_leave_mem, note_leave_mem, h.1, h.2.1], h.2.1, rfl⟩
  · exact ⟨by rw [note_mem b hl, note_mem a hl, h.1, h.2.1], by rw [note_rejoin, note_rejoin, h.2.1],
      by rw [note_leaving b hl, note_leaving a hl, h.2.2]⟩

theorem SameMem.foldl_note {a b : Snap} (h : SameMem a b) (lns : List Line) :
    SameMem (lns.foldl Snap.note a) (lns.foldl Snap.note b) :=
  List.foldl_rel h fun l _ _ _ h => h.note l

theorem InvCore.record {s : Snap} {file : Bytes} (h : InvCore s.rejoin (Judged s) s.mem file) {ln : Line} (hln : WFLine ln) :
    InvCore s.rejoin (Judged (s.note ln)) (s.note ln).mem (file ++ printLine ln) := by
  by_cases hl : ln = .leave
  · subst hl
    exact h.leave Or.inr (fun hj => hj.elim (fun e => Bool.noConfusion e) id)
  · have : Judged (s.note ln) = Judged s := by
      unfold Judged; rw [note_rejoin, note_leaving s hl]
    rw [this, note_mem s hl]
    exact h.append hln

def record (ord : Order) (s : Snap) (ln : Line) : Snap × List FsOp := appendLine ord (s.note ln) (printLine ln)

theorem record_same (ord : Order) (s : Snap) (ln : Line) : SameMem (s.note ln) (record ord s ln).1 := appendLine_same ord _ _

theorem record_inv (ord : Order) (hord : PermOrder ord) (s : Snap) (fs : FS) (ln : Line) (h : Inv s fs) (hln : WFLine ln) :
    Inv (record ord s ln).1 (fs.applyAll (record ord s ln).2) := by
  obtain ⟨d, hd, hc⟩ := h
  refine appendLine_inv ord hord (s.note ln) fs d _ hd ?_
  rw [note_buf, note_rejoin]
  exact hc.record hln

def recordAll (ord : Order) : Snap → List Line → Snap × List FsOp
  | s, [] => (s, [])
  | s, ln :: lns => ((recordAll ord (record ord s ln).1 lns).1, (record ord s ln).2 ++ (recordAll ord (record ord s ln).1 lns).2)

theorem recordAll_append (ord : Order) (a b : List Line) : ∀ s : Snap,
    recordAll ord s (a ++ b) = ((recordAll ord (recordAll ord s a).1 b).1, (recordAll ord s a).2 ++ (recordAll ord (recordAll ord s a).1 b).2) := by
  induction a with
  | nil => intro s; rfl
  | cons l a ih => intro s; simp only [List.cons_append, recordAll, ih, List.append_assoc]

theorem recordAll_same (ord : Order) (lns : List Line) : ∀ s : Snap, SameMem (lns.foldl Snap.note s) (recordAll ord s lns).1 := by
  induction lns with
  | nil => intro s; exact ⟨rfl, rfl, rfl⟩
  | cons ln lns ih => intro s; exact ((record_same ord s ln).foldl_note lns).trans (ih _)

theorem recordAll_inv (ord : Order) (hord : PermOrder ord) (lns : List Line) : ∀ (s : Snap) (fs : FS), Inv s fs →
    (∀ ln ∈ lns, WFLine ln) → Inv (recordAll ord s lns).1 (fs.applyAll (recordAll ord s lns).2) := by
  induction lns with
  | nil => intro s fs h _; exact h
  | cons ln lns ih =>
    intro s fs h hw
    rw [recordAll, applyAll_append]
    exact ih _ _ (record_inv ord hord s fs ln h (hw ln List.mem_cons_self)) (fun l hl => hw l (List.mem_cons_of_mem _ hl))

def clockLines (s : Snap) (clk : Nat) : List Line :=
  if lastSeenOf clk > s.lastClock then [.clock (lastSeenOf clk)] else []

def evLines (s : Snap) : Ev → List Line
  | .join ms clk => if s.leaving then [] else ms.map (fun p => .alive p.1 p.2) ++ clockLines s clk
  | .gone ns clk => if s.leaving then [] else ns.map .notAlive ++ clockLines s clk
  | .memberOther clk => if s.leaving then [] else clockLines s clk
  | .user lt => if s.leaving then [] else if lt ≤ s.lastEventClock then [] else [.eventClock lt]
  | .query lt => if s.leaving then [] else if lt ≤ s.lastQueryClock then [] else [.queryClock lt]
  | .clockTick clk => clockLines s clk
  | .leave => [.leave]
  | .timePasses => []
  | .forceCompact => []

/-- the memory after an event -/
def _root_.SerfModel.Snapshot.Snap.noteEv (s : Snap) (ev : Ev) : Snap := (evLines s ev).foldl Snap.note s

theorem recordAll_singleton (ord : Order) (s : Snap) (ln : Line) : recordAll ord s [ln] = record ord s ln := by
  simp only [recordAll, List.append_nil]

-- by rewriting with `Snap.note`'s equation for a variable `t`, not by reduction: the kernel must not meet
-- `lastSeenOf clk` while it reduces `Snap.note` (it would evaluate `% 2^64` in unary)
theorem updateClock_eq (ord : Order) (s : Snap) (clk : Nat) : updateClock ord s clk = recordAll ord s (clockLines s clk) := by
  have e : ∀ t, s.note (.clock t) = { s with lastClock := t } := fun _ => rfl
  unfold updateClock clockLines
  rw [apply_ite (recordAll ord s), recordAll_singleton, record, e]
  rfl

theorem joinMembers_eq (ord : Order) (ms : List (Name × Addr)) : ∀ s : Snap,
    joinMembers ord s ms = recordAll ord s (ms.map fun p => .alive p.1 p.2) := by
  induction ms with
  | nil => intro s; rfl
  | cons p ms ih => intro s; obtain ⟨n, a⟩ := p; simp only [joinMembers, List.map_cons, recordAll, ← ih]; rfl

theorem goneMembers_eq (ord : Order) (ns : List Name) : ∀ s : Snap,
    goneMembers ord s ns = recordAll ord s (ns.map .notAlive) := by
  induction ns with
  | nil => intro s; rfl
  | cons n ns ih => intro s; simp only [goneMembers, List.map_cons, recordAll, ← ih]; rfl

theorem foldl_note_lastClock (lns : List Line) (h : ∀ ln ∈ lns, ∀ t, ln ≠ .clock t) (s : Snap) :
    (lns.foldl Snap.note s).lastClock = s.lastClock :=
  List.foldlRecOn (motive := fun s' : Snap => s'.lastClock = s.lastClock) lns _ rfl fun s' hs ln hln => by
    refine Eq.trans ?_ hs
    have hne := h ln hln
    cases ln <;> first | rfl | exact absurd rfl (hne _)

theorem aliveLines_ne_clock (ms : List (Name × Addr)) : ∀ ln ∈ ms.map (fun p => Line.alive p.1 p.2), ∀ t, ln ≠ .clock t := by
  intro ln hl t e; subst e; simp at hl

theorem goneLines_ne_clock (ns : List Name) : ∀ ln ∈ ns.map Line.notAlive, ∀ t, ln ≠ .clock t := by
  intro ln hl t e; subst e; simp at hl

theorem clockLines_after (ord : Order) (s : Snap) (lns : List Line) (h : ∀ ln ∈ lns, ∀ t, ln ≠ .clock t) (clk : Nat) :
    clockLines (recordAll ord s lns).1 clk = clockLines s clk := by
  have e : (recordAll ord s lns).1.lastClock = s.lastClock :=
    (congrArg RecState.clock (recordAll_same ord lns s).1).trans (foldl_note_lastClock lns h s)
  unfold clockLines
  rw [e]

/-- One iteration of the select loop: a leave records its line, flushes and syncs; every other event only records
its lines. -/
theorem step_eq (ord : Order) (s : Snap) (ev : Ev) : step ord s ev =
    match ev with
    | .leave => flushed (record ord s .leave) [.sync .main]
    | .timePasses => ({ s with flushDue := true }, [])
    | .forceCompact => compact ord s
    | ev => recordAll ord s (evLines s ev) := by
  have hm : ∀ (lns : List Line) (r : Snap × List FsOp) (clk : Nat), (∀ ln ∈ lns, ∀ t, ln ≠ .clock t) → r = recordAll ord s lns →
      ((updateClock ord r.1 clk).1, r.2 ++ (updateClock ord r.1 clk).2) = recordAll ord s (lns ++ clockLines s clk) := by
    intro lns r clk h e
    rw [e, recordAll_append, updateClock_eq, clockLines_after ord s lns h]
  cases ev with
  | join ms clk =>
    show (if s.leaving then _ else _) = recordAll ord s (if s.leaving then _ else _)
    rw [apply_ite (recordAll ord s), ← hm _ _ clk (aliveLines_ne_clock ms) (joinMembers_eq ord ms s)]
    rfl
  | gone ns clk =>
    show (if s.leaving then _ else _) = recordAll ord s (if s.leaving then _ else _)
    rw [apply_ite (recordAll ord s), ← hm _ _ clk (goneLines_ne_clock ns) (goneMembers_eq ord ns s)]
    rfl
  | memberOther clk =>
    show (if s.leaving then _ else _) = recordAll ord s (if s.leaving then _ else _)
    rw [apply_ite (recordAll ord s), ← updateClock_eq]
    rfl
  | user lt =>
    show (if s.leaving then _ else if _ then _ else _) = recordAll ord s (if s.leaving then _ else if _ then _ else _)
    rw [apply_ite (recordAll ord s), apply_ite (recordAll ord s), recordAll_singleton]
    rfl
  | query lt =>
    show (if s.leaving then _ else if _ then _ else _) = recordAll ord s (if s.leaving then _ else if _ then _ else _)
    rw [apply_ite (recordAll ord s), apply_ite (recordAll ord s), recordAll_singleton]
    rfl
  | clockTick clk => exact updateClock_eq ord s clk
  | leave => rfl
  | timePasses => rfl
  | forceCompact => rfl

theorem shutdown_eq (ord : Order) (s : Snap) (clk : Nat) :
    shutdown ord s clk = flushed (recordAll ord s (clockLines s clk)) [.sync .main, .close .main] := by
  rw [← updateClock_eq]; rfl

theorem mem_clockLines {s : Snap} {clk : Nat} {ln : Line} (h : ln ∈ clockLines s clk) : ln = .clock (lastSeenOf clk) :=
  List.mem_singleton.mp (List.mem_ite_nil_right.mp h).2

theorem mem_evLines {s : Snap} {ev : Ev} {ln : Line} (h : ln ∈ evLines s ev) :
    (∃ clk, ln = .clock (lastSeenOf clk)) ∨ (ev = .leave ∧ ln = .leave) ∨
    (s.leaving = false ∧ ((∃ ms clk p, ev = .join ms clk ∧ p ∈ ms ∧ ln = .alive p.1 p.2) ∨
      (∃ ns clk n, ev = .gone ns clk ∧ n ∈ ns ∧ ln = .notAlive n) ∨
      (∃ lt, ev = .user lt ∧ ln = .eventClock lt) ∨ (∃ lt, ev = .query lt ∧ ln = .queryClock lt))) := by
  cases ev with
  | join ms clk =>
    obtain ⟨hl, h⟩ := List.mem_ite_nil_left.mp h
    rcases List.mem_append.mp h with h | h
    · obtain ⟨p, hp, rfl⟩ := List.mem_map.mp h
      exact .inr (.inr ⟨Bool.eq_false_iff.mpr hl, .inl ⟨ms, clk, p, rfl, hp, rfl⟩⟩)
    · exact .inl ⟨clk, mem_clockLines h⟩
  | gone ns clk =>
    obtain ⟨hl, h⟩ := List.mem_ite_nil_left.mp h
    rcases List.mem_append.mp h with h | h
    · obtain ⟨n, hn, rfl⟩ := List.mem_map.mp h
      exact .inr (.inr ⟨Bool.eq_false_iff.mpr hl, .inr (.inl ⟨ns, clk, n, rfl, hn, rfl⟩)⟩)
    · exact .inl ⟨clk, mem_clockLines h⟩
  | memberOther clk => exact .inl ⟨clk, mem_clockLines (List.mem_ite_nil_left.mp h).2⟩
  | user lt =>
    obtain ⟨hl, h⟩ := List.mem_ite_nil_left.mp h
    exact .inr (.inr ⟨Bool.eq_false_iff.mpr hl, .inr (.inr (.inl ⟨lt, rfl, List.mem_singleton.mp (List.mem_ite_nil_left.mp h).2⟩))⟩)
  | query lt =>
    obtain ⟨hl, h⟩ := List.mem_ite_nil_left.mp h
    exact .inr (.inr ⟨Bool.eq_false_iff.mpr hl, .inr (.inr (.inr ⟨lt, rfl, List.mem_singleton.mp (List.mem_ite_nil_left.mp h).2⟩))⟩)
  | clockTick clk => exact .inl ⟨clk, mem_clockLines h⟩
  | leave => exact .inr (.inl ⟨rfl, List.mem_singleton.mp h⟩)
  | timePasses => cases h
  | forceCompact => cases h

theorem clockLines_wf (s : Snap) (clk : Nat) : ∀ ln ∈ clockLines s clk, WFLine ln := by
  intro ln hl; rw [mem_clockLines hl]; exact lastSeenOf_lt clk

theorem evLines_wf (s : Snap) {ev : Ev} (h : WFEv ev) : ∀ ln ∈ evLines s ev, WFLine ln := by
  intro ln hl
  rcases mem_evLines hl with ⟨clk, rfl⟩ | ⟨_, rfl⟩ |
    ⟨_, ⟨ms, clk, p, rfl, hp, rfl⟩ | ⟨ns, clk, n, rfl, hn, rfl⟩ | ⟨lt, rfl, rfl⟩ | ⟨lt, rfl, rfl⟩⟩
  · exact lastSeenOf_lt clk
  · trivial
  · exact h p hp
  · exact h n hn
  · exact h
  · exact h

theorem leave_not_mem_evLines (s : Snap) {ev : Ev} (h : ev ≠ .leave) : Line.leave ∉ evLines s ev := by
  intro hl
  rcases mem_evLines hl with ⟨_, e⟩ | ⟨e, _⟩ | ⟨_, ⟨_, _, _, _, _, e⟩ | ⟨_, _, _, _, _, e⟩ | ⟨_, _, e⟩ | ⟨_, _, e⟩⟩
  all_goals first | exact h e | cases e

theorem step_same (ord : Order) (s : Snap) (ev : Ev) : SameMem (s.noteEv ev) (step ord s ev).1 := by
  rw [step_eq]
  split
  · exact (record_same ord s .leave).trans (flushed_same _ _)
  · exact ⟨rfl, rfl, rfl⟩
  · exact ⟨rfl, rfl, rfl⟩
  · exact recordAll_same ord _ s

theorem step_inv (ord : Order) (hord : PermOrder ord) (s : Snap) (fs : FS) (ev : Ev) (hev : WFEv ev) (h : Inv s fs) :
    Inv (step ord s ev).1 (fs.applyAll (step ord s ev).2) := by
  rw [step_eq]
  split
  · exact flushed_inv _ fs (record_inv ord hord s fs .leave h trivial) _ (fun _ => rfl)
  · exact h
  · exact compact_inv ord hord s fs h.wf
  · exact recordAll_inv ord hord _ s fs h (evLines_wf s hev)

/-- what the shutdown leaves as it is -/
structure Keeps (s s' : Snap) : Prop where
  rejoin : s'.rejoin = s.rejoin
  leaving : s'.leaving = s.leaving
  alive : s'.alive = s.alive

-- stated for a variable `t`: the kernel must not meet `lastSeenOf clk` while it reduces `Snap.note`
theorem note_clock_keeps (s : Snap) (t : Nat) : Keeps s (s.note (.clock t)) := ⟨rfl, rfl, rfl⟩

theorem clockLines_keeps (s : Snap) (clk : Nat) : Keeps s ((clockLines s clk).foldl Snap.note s) := by
  unfold clockLines
  split
  · exact note_clock_keeps s _
  · exact ⟨rfl, rfl, rfl⟩

-- `shutdown_eq` is used by rewriting and the facts about `flushed` are stated for a variable: a projection of
-- `shutdown …` unfolded by the kernel would decide `updateClock`'s test and evaluate `lastSeenOf` in unary
theorem shutdown_inv (ord : Order) (hord : PermOrder ord) (s : Snap) (fs : FS) (clk : Nat) (h : Inv s fs) :
    Inv (shutdown ord s clk).1 (fs.applyAll (shutdown ord s clk).2) ∧ (shutdown ord s clk).1.buf = [] ∧
      Keeps s (shutdown ord s clk).1 := by
  have h2 := (recordAll_same ord (clockLines s clk) s).trans (flushed_same _ [.sync .main, .close .main])
  have ⟨_, hrj, hlv⟩ := h2
  have hk := clockLines_keeps s clk
  rw [shutdown_eq]
  exact ⟨flushed_inv _ fs (recordAll_inv ord hord _ s fs h (clockLines_wf s clk)) _ (fun _ => rfl), flushed_buf _ _,
    hrj.trans hk.rejoin, hlv.trans hk.leaving, h2.alive.trans hk.alive⟩

theorem init_inv (rj : Bool) (mc : Nat) :
    Inv (Snap.init rj mc).1 (({} : FS).applyAll (Snap.init rj mc).2) :=
  ⟨[], rfl, rfl, WFRec.empty, fun _ => rfl, fun _ => ⟨rfl, rfl, rfl⟩⟩

/-- `s1` is `s` with the memory `a c e q` and the leave flag `lv` -/
structure Proj (s s1 : Snap) (a : AMap) (c e q : Nat) (lv : Bool) : Prop where
  buf : s1.buf = s.buf
  rejoin : s1.rejoin = s.rejoin
  leaving : s1.leaving = lv
  alive : s1.alive = a
  hc : s1.lastClock = c
  he : s1.lastEventClock = e
  hq : s1.lastQueryClock = q
  mem : s1.mem = { alive := a, clock := c, eventClock := e, queryClock := q }

end SerfProofs.Snapshot
