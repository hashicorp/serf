/-
The de-dup buffer of C05 / C08 / C14.  `handle` is characterised once (when it delivers, what it
leaves); one rule lifts an invariant of `handle` to whole histories; the buffer invariant `Inv` is an
instance of it, and so is everything that needs no hypothesis on the times.
-/
import SerfModel.Model.EventBuf
import SerfProofs.Lemmas.Lamport
namespace SerfProofs.EventBuf
open SerfModel.EventBuf
open SerfModel.Atomic (W)

/-- 2^64 − 1, the one Lamport time `Witness` cannot move past. -/
def maxW : W := BitVec.allOnes 64

/-- The one place where 2^64−1 enters the proofs about the buffers. -/
theorem witness_nat (cur v : W) (hv : v ≠ maxW) : (witness cur v).toNat = max cur.toNat (v.toNat + 1) :=
  SerfProofs.Lamport.runSeq_witness_toNat cur v hv

-- in this file `witness` is used through `witness_nat` only from here on; the attribute is local, so a proof in another
-- file that lets `rfl` or `simp` unfold `witness` pays seconds for it: go through `witness_nat` / `witness_bounds` there too
attribute [local irreducible] witness

theorem witness_bounds (cur : W) {v : W} (hv : v ≠ maxW) :
    cur.toNat ≤ (witness cur v).toNat ∧ v.toNat < (witness cur v).toNat :=
  witness_nat cur v hv ▸ ⟨Nat.le_max_left .., Nat.le_max_right ..⟩

theorem nW_toNat {N : Nat} (hN : N < 2 ^ 64) : (nW N).toNat = N :=
  Nat.mod_eq_of_lt hN

theorem tooOld_iff {N : Nat} (hN : N < 2 ^ 64) (cur lt : W) :
    tooOld N cur lt = true ↔ lt.toNat + N < cur.toNat := by
  simp only [tooOld, decide_eq_true_eq, BitVec.lt_def, BitVec.toNat_sub, nW_toNat hN]
  omega

theorem slotIdx_eq {N : Nat} (hN : N < 2 ^ 64) (lt : W) : slotIdx N lt = lt.toNat % N := by
  rw [slotIdx, BitVec.toNat_umod, nW_toNat hN]

/-- Two different times of the same slot are at least a whole buffer apart. -/
theorem evict {N a b : Nat} (h : a % N = b % N) (hlt : a < b) : a + N ≤ b := by
  have hd := Nat.dvd_of_mod_eq_zero (Nat.sub_mod_eq_zero_of_mod_eq h.symm)
  have := Nat.le_of_dvd (by omega) hd
  omega

variable {α : Type}

section seenAt

theorem seenAt_set_same (slots : List (Option (W × List α))) (idx : Nat) (lt : W) (ys : List α)
    (h : idx < slots.length) : seenAt (slots.set idx (some (lt, ys))) idx lt = ys := by
  simp [seenAt, h]

theorem seenAt_set_other (slots : List (Option (W × List α))) (idx : Nat) (lt u : W) (ys : List α)
    (h : idx < slots.length) (hne : lt ≠ u) : seenAt (slots.set idx (some (lt, ys))) idx u = [] := by
  simp [seenAt, h, hne]

theorem seenAt_set_ne (slots : List (Option (W × List α))) (idx j : Nat) (u : W) (v : Option (W × List α))
    (hne : idx ≠ j) : seenAt (slots.set idx v) j u = seenAt slots j u := by
  simp [seenAt, hne]

theorem seenAt_of_slot (slots : List (Option (W × List α))) (i : Nat) (u : W) (xs : List α)
    (h : slots[i]? = some (some (u, xs))) : seenAt slots i u = xs := by
  simp [seenAt, h]

theorem slot_of_mem_seenAt {slots : List (Option (W × List α))} {i : Nat} {u : W} {x : α}
    (h : x ∈ seenAt slots i u) : slots[i]? = some (some (u, seenAt slots i u)) := by
  unfold seenAt at h ⊢
  split at h
  · next t xs hs =>
    split at h
    · next ht => simp [hs, ht]
    · cases h
  · cases h

end seenAt

section handle
variable [DecidableEq α] (b : Buf α) (lt : W) (x : α)

theorem handle_delivered_iff :
    (handle b lt x).2 = .delivered ↔
      (¬ lt < b.minTime ∧ tooOld b.slots.length (witness b.clock lt) lt = false
        ∧ x ∉ seenAt b.slots (slotIdx b.slots.length lt) lt) := by
  unfold handle
  by_cases h1 : lt < b.minTime
  · simp [h1]
  by_cases h2 : tooOld b.slots.length (witness b.clock lt) lt = true
  · simp [h1, h2]
  by_cases h3 : x ∈ seenAt b.slots (slotIdx b.slots.length lt) lt <;> simp [h1, h2, h3]

theorem handle_fst :
    (handle b lt x).1 = if (handle b lt x).2 = .delivered then
        { b with
          clock := witness b.clock lt
          slots := b.slots.set (slotIdx b.slots.length lt)
            (some (lt, seenAt b.slots (slotIdx b.slots.length lt) lt ++ [x])) }
      else { b with clock := witness b.clock lt } := by
  unfold handle
  by_cases h1 : lt < b.minTime
  · simp only [h1, if_true]; rfl
  by_cases h2 : tooOld b.slots.length (witness b.clock lt) lt = true
  · simp only [h1, h2, if_true, if_false]; rfl
  by_cases h3 : x ∈ seenAt b.slots (slotIdx b.slots.length lt) lt <;>
    simp only [h1, h2, h3, if_true, if_false] <;> rfl

theorem handle_length : (handle b lt x).1.slots.length = b.slots.length := by
  rw [handle_fst]; split <;> simp

theorem handle_minTime : (handle b lt x).1.minTime = b.minTime := by
  rw [handle_fst]; split <;> rfl

end handle

/-- The prelude of a push/pull only moves the clock forward and the cut-off up, whatever `e`: the
witnessed value `e − 1` with `0 < e` is never 2^64−1. -/
theorem prelude_eq (b : Buf α) (e : W) (raise : Bool) :
    ∃ c m, b.clock.toNat ≤ c.toNat ∧ b.minTime ≤ m ∧ raiseMin (witnessRemote b e) raise e = { b with clock := c, minTime := m } := by
  have h1 : ∃ c, b.clock.toNat ≤ c.toNat ∧ witnessRemote b e = { b with clock := c } := by
    unfold witnessRemote
    split
    · next he =>
      have hne : e - 1#64 ≠ maxW := fun hEq => by
        have h := congrArg BitVec.toNat hEq
        rw [Lamport.toNat_sub_one he, maxW, BitVec.toNat_allOnes] at h
        omega
      exact ⟨_, (witness_bounds _ hne).1, rfl⟩
    · exact ⟨_, Nat.le_refl _, rfl⟩
  obtain ⟨c, hc, h1⟩ := h1
  rw [h1]
  unfold raiseMin
  split
  · next hr => exact ⟨c, e, hc, BitVec.le_of_lt hr.2, rfl⟩
  · exact ⟨c, b.minTime, hc, BitVec.le_refl _, rfl⟩

theorem prelude_length (b : Buf α) (e : W) (raise : Bool) :
    (raiseMin (witnessRemote b e) raise e).slots.length = b.slots.length := by
  obtain ⟨_, _, _, _, he⟩ := prelude_eq b e raise
  rw [he]

section run
variable [DecidableEq α]

theorem stepIn_gossip (b : Buf α) (lt : W) (x : α) :
    stepIn b (.gossip lt x) = ((handle b lt x).1, if (handle b lt x).2 = .delivered then [(lt, x)] else []) := by
  simp [stepIn, handleAll]

theorem run_append (a c : List (In α)) (b : Buf α) :
    run b (a ++ c) = ((run (run b a).1 c).1, (run b a).2 ++ (run (run b a).1 c).2) := by
  induction a generalizing b with
  | nil => rfl
  | cons i rest ih => simp [run, ih, List.append_assoc]

end run

/-! A history applies `handle` to a sequence of (time, item) pairs and, at a push/pull, moves the
clock forward and possibly raises the cut-off in between.  So a relation `I` between the buffer
and the list of deliveries so far that survives these two kinds of step survives every history;
`T` is what the step may assume about the times it is given. -/
section lift
variable [DecidableEq α] {I : Buf α → List (W × α) → Prop} {T : W → Prop}

theorem handleAll_invariant
    (hh : ∀ b D lt x, T lt → I b D → I (handle b lt x).1 (if (handle b lt x).2 = .delivered then D ++ [(lt, x)] else D)) :
    ∀ (l : List (W × α)) (b : Buf α) (D : List (W × α)), (∀ p ∈ l, T p.1) → I b D →
      I (handleAll b l).1 (D ++ (handleAll b l).2) := by
  intro l
  induction l with
  | nil => intro b D _ h; simpa [handleAll] using h
  | cons p rest ih =>
    intro b D hT h
    have h2 := ih _ _ (fun q hq => hT q (List.mem_cons_of_mem _ hq)) (hh b D p.1 p.2 (hT p (List.mem_cons_self ..)) h)
    by_cases hr : (handle b p.1 p.2).2 = .delivered <;> simpa [handleAll, hr] using h2

theorem run_invariant
    (hh : ∀ b D lt x, T lt → I b D → I (handle b lt x).1 (if (handle b lt x).2 = .delivered then D ++ [(lt, x)] else D))
    (hm : ∀ b D c m, b.clock.toNat ≤ c.toNat → b.minTime ≤ m → I b D → I { b with clock := c, minTime := m } D) :
    ∀ (ins : List (In α)) (b : Buf α) (D : List (W × α)), (∀ i ∈ ins, ∀ t ∈ i.times, T t) → I b D →
      I (run b ins).1 (D ++ (run b ins).2) := by
  intro ins
  induction ins with
  | nil => intro b D _ h; simpa [run] using h
  | cons i rest ih =>
    intro b D hT h
    have hi := hT i (List.mem_cons_self ..)
    have h1 : I (stepIn b i).1 (D ++ (stepIn b i).2) := by
      cases i with
      | gossip lt x => exact handleAll_invariant hh [(lt, x)] b D (by simpa [In.times] using hi) h
      | pushPull e raise image =>
        obtain ⟨c, m, hc, hm', he⟩ := prelude_eq b e raise
        simp only [stepIn, he]
        exact handleAll_invariant hh _ _ D (fun p hp => hi p.1 (List.mem_map_of_mem hp)) (hm b D c m hc hm' h)
    have h2 := ih _ _ (fun j hj => hT j (List.mem_cons_of_mem _ hj)) h1
    simpa [run, List.append_assoc] using h2

end lift

/-! ### What holds for all 64-bit times -/
section weak
variable [DecidableEq α]

theorem handleAll_length (l : List (W × α)) (b : Buf α) : (handleAll b l).1.slots.length = b.slots.length :=
  handleAll_invariant (I := fun b' _ => b'.slots.length = b.slots.length) (T := fun _ => True)
    (fun _ _ _ _ _ h => (handle_length ..).trans h) l b [] (fun _ _ => trivial) rfl

theorem run_length (ins : List (In α)) (b : Buf α) : (run b ins).1.slots.length = b.slots.length :=
  run_invariant (I := fun b' _ => b'.slots.length = b.slots.length) (T := fun _ => True)
    (fun _ _ _ _ _ h => (handle_length ..).trans h) (fun _ _ _ _ _ _ h => h) ins b [] (fun _ _ _ _ => trivial) rfl

/-- Everything recorded in a slot was delivered. -/
def SlotsIn (b : Buf α) (D : List (W × α)) : Prop :=
  ∀ (i : Nat) (t : W) (xs : List α), b.slots[i]? = some (some (t, xs)) → ∀ x ∈ xs, (t, x) ∈ D

theorem handle_slotsIn (b : Buf α) (D : List (W × α)) (lt : W) (x : α) (h : SlotsIn b D) :
    SlotsIn (handle b lt x).1 (if (handle b lt x).2 = .delivered then D ++ [(lt, x)] else D) := by
  rw [handle_fst]
  split
  · intro i t xs hs y hy
    rw [List.getElem?_set] at hs
    split at hs
    · next hi =>
      split at hs
      · obtain ⟨rfl, rfl⟩ : lt = t ∧ seenAt b.slots (slotIdx b.slots.length lt) lt ++ [x] = xs := by simpa using hs
        rcases List.mem_append.1 hy with hy | hy
        · exact List.mem_append_left _ (h _ _ _ (slot_of_mem_seenAt hy) y hy)
        · exact List.mem_append_right _ (by simpa using hy)
      · cases hs
    · exact List.mem_append_left _ (h i t xs hs y hy)
  · exact h

theorem handleAll_slotsIn (l : List (W × α)) {b : Buf α} {D : List (W × α)} (h : SlotsIn b D) :
    SlotsIn (handleAll b l).1 (D ++ (handleAll b l).2) :=
  handleAll_invariant (T := fun _ => True) (fun b D lt x _ => handle_slotsIn b D lt x) l b D (fun _ _ => trivial) h

theorem run_slotsIn (ins : List (In α)) {b : Buf α} {D : List (W × α)} (h : SlotsIn b D) :
    SlotsIn (run b ins).1 (D ++ (run b ins).2) :=
  run_invariant (T := fun _ => True) (fun b D lt x _ => handle_slotsIn b D lt x) (fun _ _ _ _ _ _ h => h)
    ins b D (fun _ _ _ _ => trivial) h

omit [DecidableEq α] in
theorem start_slot_ne {N : Nat} {c m : W} {i : Nat} {p : W × List α} :
    (Buf.start (α := α) N c m).slots[i]? ≠ some (some p) := by
  intro h
  simp only [Buf.start, List.getElem?_replicate] at h
  split at h <;> cases h

omit [DecidableEq α] in
theorem slotsIn_start (N : Nat) (c m : W) : SlotsIn (Buf.start (α := α) N c m) [] :=
  fun _ _ _ h => absurd h start_slot_ne

end weak

/-! ### The buffer invariant (histories without the time 2^64−1) -/

/-- No input carries the time 2^64 − 1. -/
def NoWrap (ins : List (In α)) : Prop := ∀ i ∈ ins, ∀ t ∈ i.times, t ≠ maxW

/-- For a concrete history: the Boolean form evaluates in the kernel (`decide` on the `∀` form does not). -/
theorem NoWrap.of_all {ins : List (In α)} (h : (ins.all fun i => i.times.all (· != maxW)) = true) : NoWrap ins :=
  fun i hi t ht => by simpa using List.all_eq_true.1 (List.all_eq_true.1 h i hi) t ht

/-- The buffer invariant, relative to the list `D` of everything delivered so far. -/
structure Inv (b : Buf α) (D : List (W × α)) : Prop where
  pos : 0 < b.slots.length
  lt64 : b.slots.length < 2 ^ 64
  nodup : D.Nodup
  below : ∀ p ∈ D, p.1.toNat < b.clock.toNat
  /-- a delivered event that is not yet too old (`tooOld_iff`) still sits in its slot -/
  inSlot : ∀ p ∈ D, ¬ (p.1.toNat + b.slots.length < b.clock.toNat) →
    p.2 ∈ seenAt b.slots (p.1.toNat % b.slots.length) p.1
  /-- conversely, what sits in a slot was delivered -/
  slotsIn : SlotsIn b D
  slotTimes : ∀ (i : Nat) (t : W) (xs : List α), b.slots[i]? = some (some (t, xs)) →
    t.toNat % b.slots.length = i ∧ t.toNat < b.clock.toNat

theorem Inv.start {N : Nat} (hN : 0 < N) (hN2 : N < 2 ^ 64) (c m : W) : Inv (Buf.start (α := α) N c m) [] :=
  ⟨by simpa [Buf.start] using hN, by simpa [Buf.start] using hN2, List.nodup_nil, nofun, nofun, slotsIn_start N c m,
    fun _ _ _ h => absurd h start_slot_ne⟩

theorem Inv.mono {b : Buf α} {D : List (W × α)} (h : Inv b D) (c m : W) (hc : b.clock.toNat ≤ c.toNat) :
    Inv { b with clock := c, minTime := m } D :=
  { h with
    below := fun p hp => Nat.lt_of_lt_of_le (h.below p hp) hc
    inSlot := fun p hp hno => h.inSlot p hp fun hlt => hno (Nat.lt_of_lt_of_le hlt hc)
    slotTimes := fun i t xs hs => (h.slotTimes i t xs hs).imp_right (Nat.lt_of_lt_of_le · hc) }

variable [DecidableEq α]

theorem handle_inv (b : Buf α) (D : List (W × α)) (lt : W) (x : α) (hlt : lt ≠ maxW) (h : Inv b D) :
    Inv (handle b lt x).1 (if (handle b lt x).2 = .delivered then D ++ [(lt, x)] else D) := by
  obtain ⟨hge, hgt⟩ := witness_bounds b.clock hlt
  have hmono := h.mono (witness b.clock lt) b.minTime hge
  by_cases hr : (handle b lt x).2 = .delivered
  case neg => rw [handle_fst, if_neg hr, if_neg hr]; exact hmono
  rw [handle_fst, if_pos hr, if_pos hr]
  obtain ⟨-, h2, h3⟩ := (handle_delivered_iff b lt x).1 hr
  have hN2 := h.lt64
  rw [Bool.eq_false_iff, Ne, tooOld_iff hN2] at h2
  rw [slotIdx_eq hN2] at h3 ⊢
  have hidx : lt.toNat % b.slots.length < b.slots.length := Nat.mod_lt _ h.pos
  refine ⟨by simpa using h.pos, by simpa using hN2, ?_, ?_, ?_, ?_, ?_⟩
  · -- nodup: a copy in `D` would, not being too old, still sit in its slot
    refine List.nodup_append.2 ⟨h.nodup, List.pairwise_singleton _ _, ?_⟩
    intro a ha c hc
    rw [List.mem_singleton.1 hc]
    rintro rfl
    exact h3 (h.inSlot _ ha fun hold => h2 (Nat.lt_of_lt_of_le hold hge))
  · -- below
    intro p hp
    rcases List.mem_append.1 hp with hp | hp
    · exact hmono.below p hp
    · rw [List.mem_singleton.1 hp]; exact hgt
  · -- inSlot: an older time of the same slot is a whole buffer behind the new one, hence too old now
    intro p hp hno
    simp only [List.length_set] at hno ⊢
    rcases List.mem_append.1 hp with hp | hp
    · have hpb : p.1.toNat < (witness b.clock lt).toNat := hmono.below p hp
      have hold := hmono.inSlot p hp hno
      by_cases hj : lt.toNat % b.slots.length = p.1.toNat % b.slots.length
      · by_cases ht : lt = p.1
        · rw [← hj, ← ht, seenAt_set_same _ _ _ _ hidx]
          rw [← hj, ← ht] at hold
          exact List.mem_append_left _ hold
        · rcases Nat.lt_or_gt_of_ne (fun e => ht (BitVec.eq_of_toNat_eq e)) with hl | hl
          · exact absurd (Nat.lt_of_le_of_lt (evict hj hl) hpb) h2
          · exact absurd (Nat.lt_of_le_of_lt (evict hj.symm hl) hgt) hno
      · rw [seenAt_set_ne _ _ _ _ _ hj]; exact hold
    · rw [List.mem_singleton.1 hp, seenAt_set_same _ _ _ _ hidx]
      exact List.mem_append_right _ (List.mem_singleton_self x)
  · -- slotsIn
    have := handle_slotsIn b D lt x h.slotsIn
    rwa [handle_fst, if_pos hr, if_pos hr, slotIdx_eq hN2] at this
  · -- slotTimes
    intro i t xs hs
    simp only [List.getElem?_set, List.length_set] at hs ⊢
    split at hs
    · next hi =>
      obtain ⟨rfl, -⟩ : lt = t ∧ _ := by simpa using hs
      exact ⟨hi, hgt⟩
    · exact hmono.slotTimes i t xs hs

theorem run_inv {ins : List (In α)} (hnw : NoWrap ins) {b : Buf α} {D : List (W × α)} (h : Inv b D) :
    Inv (run b ins).1 (D ++ (run b ins).2) :=
  run_invariant handle_inv (fun _ _ c m hc _ h => h.mono c m hc) ins b D hnw h

theorem handleAll_inv {l : List (W × α)} (hl : ∀ p ∈ l, p.1 ≠ maxW) {b : Buf α} {D : List (W × α)} (h : Inv b D) :
    Inv (handleAll b l).1 (D ++ (handleAll b l).2) :=
  handleAll_invariant handle_inv l b D hl h

end SerfProofs.EventBuf
