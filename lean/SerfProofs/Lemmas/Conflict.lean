/-
Helper lemmas for C36: the counting loop of `resolveNodeConflict` computes the
number of valid replies and the number of valid replies naming this node, so the
decision depends on the replies only through the multiset of the valid ones.
-/
import SerfModel.Model.Conflict
namespace SerfProofs.Conflict
open SerfModel SerfModel.Conflict

/-- The valid replies, decoded, in arrival order. -/
def validReplies (decode : Decoder) (rs : List Bytes) : List (Option MAddr) :=
  rs.filterMap (valid? decode)

theorem foldl_count (decode : Decoder) (addr : Bytes) (port : Nat) (rs : List Bytes) (t : Tally) :
    rs.foldl (count decode addr port) t =
      ⟨t.responses + (validReplies decode rs).length,
       t.matching + (validReplies decode rs).countP (mine addr port)⟩ := by
  induction rs generalizing t with
  | nil => rfl
  | cons r rs ih =>
    rw [List.foldl_cons, ih]
    unfold count validReplies
    cases hv : valid? decode r with
    | none => simp [hv]
    | some m =>
      by_cases hm : mine addr port m = true <;>
        simp [hv, hm, Nat.add_assoc, Nat.add_comm 1]

theorem tally_eq (decode : Decoder) (addr : Bytes) (port : Nat) (rs : List Bytes) :
    tally decode addr port rs =
      ⟨(validReplies decode rs).length, (validReplies decode rs).countP (mine addr port)⟩ := by
  simp [tally, foldl_count]

theorem tally_congr {decode decode' : Decoder} {rs rs' : List Bytes} (addr : Bytes) (port : Nat)
    (h : (validReplies decode rs).Perm (validReplies decode' rs')) :
    tally decode addr port rs = tally decode' addr port rs' := by
  rw [tally_eq, tally_eq, h.length_eq, h.countP_eq]

end SerfProofs.Conflict
