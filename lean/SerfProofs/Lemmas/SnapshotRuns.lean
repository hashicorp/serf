/-
Whole histories: `run`, a leave in the middle, `shutdown`, and what a restart recovers.
The memory of a run is the fold of `Snap.noteEv` over its events, so what a run does to the
flags and to the alive map is read off that fold.
-/
import SerfProofs.Lemmas.SnapshotSteps
namespace SerfProofs.Snapshot
open SerfModel SerfModel.Snapshot

-- as in SnapshotSteps.lean; here `life_fresh_fst` / `life_fresh_snd` (by `rfl`) need it
attribute [local irreducible] lastSeenOf

theorem run_nil (ord : Order) (s : Snap) : run ord s [] = (s, []) := rfl
theorem run_cons (ord : Order) (s : Snap) (e : Ev) (es : List Ev) :
    run ord s (e :: es) = ((run ord (step ord s e).1 es).1, (step ord s e).2 ++ (run ord (step ord s e).1 es).2) := rfl

theorem run_append (ord : Order) (a b : List Ev) : ∀ s : Snap,
    run ord s (a ++ b) = ((run ord (run ord s a).1 b).1, (run ord s a).2 ++ (run ord (run ord s a).1 b).2) := by
  induction a with
  | nil => intro s; rw [run_nil]; rfl
  | cons e es ih =>
    intro s
    rw [List.cons_append, run_cons, run_cons, ih]
    simp only [List.append_assoc]

theorem run_inv (ord : Order) (hord : PermOrder ord) (evs : List Ev) :
    ∀ (s : Snap) (fs : FS), (∀ e ∈ evs, WFEv e) → Inv s fs → Inv (run ord s evs).1 (fs.applyAll (run ord s evs).2) := by
  induction evs with
  | nil => intro s fs _ h; exact h
  | cons e es ih =>
    intro s fs hw h
    rw [run_cons, applyAll_append]
    exact ih _ _ (fun x hx => hw x (List.mem_cons_of_mem _ hx)) (step_inv ord hord s fs e (hw e List.mem_cons_self) h)

theorem SameMem.noteEv {a b : Snap} (h : SameMem a b) (ev : Ev) : SameMem (a.noteEv ev) (b.noteEv ev) := by
  have e : evLines b ev = evLines a ev := by
    obtain ⟨hm, _, hl⟩ := h
    simp only [Snap.mem, RecState.mk.injEq] at hm
    obtain ⟨_, h2, h3, h4⟩ := hm
    cases ev <;> simp only [evLines, clockLines, h2, h3, h4, hl]
  unfold Snap.noteEv
  rw [e]
  exact h.foldl_note _

theorem SameMem.foldl_noteEv {a b : Snap} (h : SameMem a b) (evs : List Ev) :
    SameMem (evs.foldl Snap.noteEv a) (evs.foldl Snap.noteEv b) :=
  List.foldl_rel h fun e _ _ _ h => h.noteEv e

theorem run_same (ord : Order) (evs : List Ev) : ∀ s : Snap, SameMem (evs.foldl Snap.noteEv s) (run ord s evs).1 := by
  induction evs with
  | nil => intro s; exact ⟨rfl, rfl, rfl⟩
  | cons e es ih => intro s; exact ((step_same ord s e).foldl_noteEv es).trans (ih _)

theorem noteEv_rejoin (s : Snap) (ev : Ev) : (s.noteEv ev).rejoin = s.rejoin :=
  List.foldlRecOn (motive := fun s' : Snap => s'.rejoin = s.rejoin) (evLines s ev) _ rfl fun s' hs l _ =>
    (note_rejoin s' l).trans hs

theorem noteEv_leaving (s : Snap) {ev : Ev} (h : ev ≠ .leave) : (s.noteEv ev).leaving = s.leaving :=
  List.foldlRecOn (motive := fun s' : Snap => s'.leaving = s.leaving) (evLines s ev) _ rfl fun s' hs _ hl =>
    (note_leaving s' fun e => leave_not_mem_evLines s h (e ▸ hl)).trans hs

/-- once leaving (and, without rejoin-after-leave, the alive map emptied), only clock lines and further leaves are
recorded: the alive map stays as it is -/
theorem noteEv_of_leaving (s : Snap) (h : s.leaving = true) (he : s.rejoin = false → s.alive = []) (ev : Ev) :
    (s.noteEv ev).leaving = true ∧ (s.noteEv ev).alive = s.alive := by
  have hlns : ∀ ln ∈ evLines s ev, ln = .leave ∨ ∃ t, ln = .clock t := by
    intro ln hl
    rcases mem_evLines hl with ⟨clk, e⟩ | ⟨_, e⟩ | ⟨e, _⟩
    · exact .inr ⟨_, e⟩
    · exact .inl e
    · rw [h] at e; cases e
  refine (List.foldlRecOn (motive := fun s' : Snap => (s'.leaving = true ∧ s'.alive = s.alive) ∧ s'.rejoin = s.rejoin)
    (evLines s ev) Snap.note ⟨⟨h, rfl⟩, rfl⟩ fun s' ⟨⟨h1, h2⟩, h3⟩ l hl => ⟨?_, (note_rejoin s' l).trans h3⟩).1
  rcases hlns l hl with rfl | ⟨t, rfl⟩
  · refine ⟨rfl, ?_⟩
    show (if s'.rejoin then s'.alive else []) = s.alive
    cases hr : s'.rejoin
    · exact (he (h3 ▸ hr)).symm
    · exact h2
  · exact ⟨h1, h2⟩

theorem foldl_noteEv_rejoin (evs : List Ev) (s : Snap) : (evs.foldl Snap.noteEv s).rejoin = s.rejoin :=
  List.foldlRecOn (motive := fun s' : Snap => s'.rejoin = s.rejoin) evs _ rfl fun s' h e _ => (noteEv_rejoin s' e).trans h

theorem foldl_noteEv_leaving (evs : List Ev) (h : Ev.leave ∉ evs) (s : Snap) : (evs.foldl Snap.noteEv s).leaving = s.leaving :=
  List.foldlRecOn (motive := fun s' : Snap => s'.leaving = s.leaving) evs _ rfl fun s' hs _ he =>
    (noteEv_leaving s' fun e' => h (e' ▸ he)).trans hs

theorem foldl_noteEv_of_leaving (evs : List Ev) (s : Snap) (h : s.leaving = true) (he : s.rejoin = false → s.alive = []) :
    (evs.foldl Snap.noteEv s).alive = s.alive :=
  (List.foldlRecOn (motive := fun s' : Snap => s'.leaving = true ∧ s'.rejoin = s.rejoin ∧ s'.alive = s.alive) evs _
    ⟨h, rfl, rfl⟩ fun s' ⟨h1, h2, h3⟩ e _ =>
      have ⟨a1, a2⟩ := noteEv_of_leaving s' h1 (by rw [h2, h3]; exact he) e
      ⟨a1, (noteEv_rejoin s' e).trans h2, a2.trans h3⟩).2.2

/-- what a restart reads (with the recovery rename): the snapshot file, or `path.compact` when it is missing -/
def recoverFile (fs : FS) : Bytes := (if fs.main.isNone then fs.tmp else fs.main).getD []

theorem recover_eq_recoverFile (rj : Bool) (fs : FS) : recover rj fs = replay rj (recoverFile fs) := rfl

theorem recoverFile_of_main {fs : FS} {d : Bytes} (h : fs.main = some d) : recoverFile fs = d := by
  simp [recoverFile, h]

theorem recoverFile_of_none {fs : FS} {t : Bytes} (h : fs.main = none) (ht : fs.tmp = some t) : recoverFile fs = t := by
  simp [recoverFile, h, ht]

theorem mem_alive (s : Snap) : s.mem.alive = s.alive := rfl

/-- Agreement with a well-formed memory, field by field.  The statements about whole lives speak of `(shutdown …).1.mem`
and come here for the fields: for a variable `s` the conversion costs nothing, on `(shutdown …).1` the kernel would
evaluate the state to find them (see `shutdown_inv`). -/
theorem RecEq.fields {r : RecState} {s : Snap} (h : RecEq r s.mem) (hwf : WFRec s.mem) :
    MapEq r.alive s.alive ∧ (akeys s.alive).Nodup ∧
    r.clock = s.lastClock ∧ r.eventClock = s.lastEventClock ∧ r.queryClock = s.lastQueryClock :=
  ⟨h.1, hwf.1, h.2⟩

theorem recover_of_inv {s : Snap} {fs : FS} (hinv : Inv s fs) (hbuf : s.buf = []) :
    MapEq (recover s.rejoin fs).alive s.mem.alive ∧ (Judged s → ClocksEq (recover s.rejoin fs) s.mem) := by
  obtain ⟨d, hd, _, _, hA, hC⟩ := hinv
  rw [hbuf, List.append_nil] at hA hC
  rw [recover_eq_recoverFile, recoverFile_of_main hd]
  exact ⟨hA, hC⟩

theorem recover_after_shutdown (ord : Order) (hord : PermOrder ord) (s : Snap) (fs : FS) (clk : Nat) (h : Inv s fs) :
    MapEq (recover s.rejoin (fs.applyAll (shutdown ord s clk).2)).alive (shutdown ord s clk).1.mem.alive ∧
    WFRec (shutdown ord s clk).1.mem ∧
    (Judged s → ClocksEq (recover s.rejoin (fs.applyAll (shutdown ord s clk).2)) (shutdown ord s clk).1.mem) := by
  obtain ⟨hinv, hbuf, hk⟩ := shutdown_inv ord hord s fs clk h
  have key := recover_of_inv hinv hbuf
  unfold Judged at key ⊢
  rw [hk.rejoin, hk.leaving] at key
  exact ⟨key.1, hinv.wf, key.2⟩

/-- a life without a leave: run, shutdown, restart -/
theorem restore_generic (ord : Order) (hord : PermOrder ord) (s0 : Snap) (fs0 : FS) (h0 : Inv s0 fs0)
    (hl : s0.leaving = false) (evs : List Ev) (clk : Nat) (hwf : ∀ e ∈ evs, WFEv e) (hnl : Ev.leave ∉ evs) :
    RecEq (recover s0.rejoin ((fs0.applyAll (run ord s0 evs).2).applyAll (shutdown ord (run ord s0 evs).1 clk).2))
        (shutdown ord (run ord s0 evs).1 clk).1.mem ∧
    WFRec (shutdown ord (run ord s0 evs).1 clk).1.mem := by
  obtain ⟨_, hrj, hlv⟩ := run_same ord evs s0
  obtain ⟨hA, hw, hC⟩ := recover_after_shutdown ord hord (run ord s0 evs).1 _ clk (run_inv ord hord evs s0 fs0 hwf h0)
  unfold Judged at hC
  rw [hrj, foldl_noteEv_rejoin] at hA hC
  rw [hlv, foldl_noteEv_leaving evs hnl] at hC
  exact ⟨⟨hA, hC (Or.inl hl)⟩, hw⟩

/-- a life with a leave in the middle: what the final alive map is and that the restart recovers it -/
theorem leave_generic (ord : Order) (hord : PermOrder ord) (s0 : Snap) (fs0 : FS) (h0 : Inv s0 fs0)
    (pre post : List Ev) (clk : Nat) (hwf : ∀ e ∈ pre ++ (Ev.leave :: post), WFEv e) :
    MapEq (recover s0.rejoin ((fs0.applyAll (run ord s0 (pre ++ (Ev.leave :: post))).2).applyAll
            (shutdown ord (run ord s0 (pre ++ (Ev.leave :: post))).1 clk).2)).alive
          (if s0.rejoin then (run ord s0 pre).1.alive else []) := by
  have hr := run_inv ord hord _ s0 fs0 hwf h0
  have hs := run_same ord (pre ++ (Ev.leave :: post)) s0
  have hsd := (recover_after_shutdown ord hord _ _ clk hr).1
  have ⟨_, hrj, _⟩ := hs
  rw [hrj, foldl_noteEv_rejoin, mem_alive, (shutdown_inv ord hord _ _ clk hr).2.2.alive, hs.alive] at hsd
  -- the alive map at the end, from the memory of the run: nothing changes it after the leave
  have hfinal : ((pre ++ (Ev.leave :: post)).foldl Snap.noteEv s0).alive = if s0.rejoin then (run ord s0 pre).1.alive else [] := by
    rw [List.foldl_append, List.foldl_cons, (run_same ord pre s0).alive, ← foldl_noteEv_rejoin pre s0]
    generalize pre.foldl Snap.noteEv s0 = m
    exact foldl_noteEv_of_leaving post (m.noteEv .leave) rfl (fun hr => if_neg (Bool.eq_false_iff.mp hr))
  rw [hfinal] at hsd
  exact hsd

theorem life_fresh_fst (ord : Order) (rj : Bool) (mc : Nat) (evs : List Ev) (clk : Nat) :
    (life ord rj mc {} evs clk).1 = (shutdown ord (run ord (Snap.init rj mc).1 evs).1 clk).1 := rfl

theorem life_fresh_snd (ord : Order) (rj : Bool) (mc : Nat) (evs : List Ev) (clk : Nat) :
    (life ord rj mc {} evs clk).2 =
      (Snap.init rj mc).2 ++ (run ord (Snap.init rj mc).1 evs).2 ++ (shutdown ord (run ord (Snap.init rj mc).1 evs).1 clk).2 := rfl

theorem life_fresh_fs (ord : Order) (rj : Bool) (mc : Nat) (evs : List Ev) (clk : Nat) :
    FS.applyAll {} (life ord rj mc {} evs clk).2 =
      (((({} : FS).applyAll (Snap.init rj mc).2).applyAll (run ord (Snap.init rj mc).1 evs).2).applyAll
        (shutdown ord (run ord (Snap.init rj mc).1 evs).1 clk).2) := by
  rw [life_fresh_snd, applyAll_append, applyAll_append]

theorem init_rejoin (rj : Bool) (mc : Nat) : (Snap.init rj mc).1.rejoin = rj := rfl
theorem init_leaving (rj : Bool) (mc : Nat) : (Snap.init rj mc).1.leaving = false := rfl

end SerfProofs.Snapshot
