/-
Recording resumes after a single I/O fault (model `SerfModel.SnapshotFault`):
once the fault lies in the past, the next compaction installs fresh handles on a file that
holds the in-memory state (`Fine` + C10's invariant), and from then on the fault model runs
exactly like the fault-free model of `SerfModel.Snapshot`, so C10's theorems apply.

The I/O functions are walked as for `Frame`, now with every operation succeeding: `Done` (inside a
compaction, handles in flux) and `Ok` (fresh handles) give a result in the fault-free writer's terms.
-/
import SerfProofs.Lemmas.SnapshotFault
import SerfProofs.Lemmas.SnapshotRuns

namespace SerfProofs.SnapshotFault
open SerfModel SerfModel.Snapshot SerfModel.SnapshotFault SerfProofs.Snapshot

/-- the model directory: the operations that were actually performed -/
def mfs (st : FSnap) : FS := FS.applyAll {} st.done

/-- the effect of fault-free I/O: nothing but the directory (by `ops`) and the counters changes -/
structure Eff (st st' : FSnap) (ops : List FsOp) : Prop where
  s : st'.s = st.s
  sticky : st'.sticky = st.sticky
  fhClosed : st'.fhClosed = st.fhClosed
  fh : st'.fh = st.fh
  attempted : st'.attempted = st.attempted
  q : Q st'
  fs : mfs st' = (mfs st).applyAll ops

theorem Eff.refl {st : FSnap} (h : Q st) : Eff st st [] := ⟨rfl, rfl, rfl, rfl, rfl, h, rfl⟩

theorem Eff.trans {a b c : FSnap} {o1 o2 : List FsOp} (h1 : Eff a b o1) (h2 : Eff b c o2) : Eff a c (o1 ++ o2) :=
  ⟨h2.s.trans h1.s, h2.sticky.trans h1.sticky, h2.fhClosed.trans h1.fhClosed, h2.fh.trans h1.fh,
   h2.attempted.trans h1.attempted, h2.q, by rw [h2.fs, h1.fs, applyAll_append]⟩

/-- `r` succeeded and performed `ops`, nothing else -/
structure Done (st : FSnap) (ops : List FsOp) (r : FSnap × Bool) : Prop where
  ok : r.2 = true
  eff : Eff st r.1 ops

/-- the next operation is not the faulty one -/
theorem Q.next {st : FSnap} (h : Q st) : ¬ st.fault = some st.nops := by
  obtain ⟨_, _, e | ⟨k, e, hk⟩⟩ := h
  · rw [e]; exact nofun
  · rw [e]; intro hh; cases hh; exact Nat.lt_irrefl _ hk

-- `w` is a variable: the model also passes `!st.fhClosed` and `st.mainExists || !st.removeMissingFails`
theorem doOpW_done (st : FSnap) (op : FsOp) {w : Bool} (hw : w = true) (h : Q st) : Done st [op] (doOpW st op w) := by
  have e : doOpW st op w =
      ({ st with nops := st.nops + 1, done := st.done ++ [op], log := st.log ++ [(op, true)] }, true) := by
    unfold doOpW; rw [if_neg h.next, if_pos hw]
  have hq := (doOpW_frame st op w).q h
  rw [e] at hq ⊢
  exact ⟨rfl, rfl, rfl, rfl, rfl, rfl, hq, applyAll_append _ _ _⟩

theorem doOp_done (st : FSnap) (op : FsOp) (h : Q st) : Done st [op] (doOp st op) := doOpW_done st op rfl h

theorem doWrites_done (p : Path) {w : Bool} (hw : w = true) (ws : List Bytes) : ∀ st : FSnap, Q st →
    Done st (ws.map (.write p)) (doWrites st p w ws) := by
  induction ws with
  | nil => intro st h; exact ⟨rfl, Eff.refl h⟩
  | cons x xs ih =>
    intro st h
    have h1 := doOpW_done st (.write p x) hw h
    have h2 := ih _ h1.eff.q
    exact ite_prop _ (fun _ => ⟨h2.ok, h1.eff.trans h2.eff⟩) (fun c => absurd h1.ok c)

/-- no fault ahead, current code shape, fresh handles -/
def Fine (st : FSnap) : Prop := Q st ∧ st.sticky = false ∧ st.fhClosed = false ∧ st.fh = true

theorem Fine.q {st : FSnap} (h : Fine st) : Q st := h.1
theorem Fine.sticky {st : FSnap} (h : Fine st) : st.sticky = false := h.2.1
theorem Fine.fh {st : FSnap} (h : Fine st) : st.fh = true := h.2.2.2

theorem Fine.set_s {st : FSnap} (h : Fine st) (s' : Snap) : Fine { st with s := s' } := h

theorem Fine.of_eff {st st' : FSnap} {ops : List FsOp} (h : Fine st) (e : Eff st st' ops) : Fine st' :=
  have ⟨_, hs, hc, hf⟩ := h
  ⟨e.q, e.sticky.trans hs, e.fhClosed.trans hc, e.fh.trans hf⟩

/-- `doOpW`'s `works` for a write through the file handle -/
theorem Fine.writes {st : FSnap} (h : Fine st) : (!st.fhClosed) = true := by rw [h.2.2.1]; rfl

/-- `r` succeeded and did what the fault-free writer's `m` says, on fresh handles -/
structure Ok (st : FSnap) (m : Snap × List FsOp) (r : FSnap × Res) : Prop where
  ok : r.2 = .ok
  s : r.1.s = m.1
  fs : mfs r.1 = (mfs st).applyAll m.2
  fine : Fine r.1
  attempted : r.1.attempted = st.attempted

theorem Ok.after {a b : FSnap} {ops : List FsOp} {m : Snap × List FsOp} {r : FSnap × Res} (h : Ok b m r)
    (hfs : mfs b = (mfs a).applyAll ops) (ha : b.attempted = a.attempted) : Ok a (m.1, ops ++ m.2) r :=
  ⟨h.ok, h.s, by rw [applyAll_append, ← hfs]; exact h.fs, h.fine, h.attempted.trans ha⟩

theorem Ok.of_set_s {st : FSnap} {s' : Snap} {m : Snap × List FsOp} {r : FSnap × Res} (h : Ok { st with s := s' } m r) :
    Ok st m r := ⟨h.ok, h.s, h.fs, h.fine, h.attempted⟩

theorem fFlushDue_ok (st : FSnap) (n : Nat) (h : Fine st) :
    Ok st ({ st.s with buf := [], offset := st.s.offset + n }, flushOps .main st.s.buf) (fFlushDue st n) := by
  have q := doOpW_done st (.write .main st.s.buf) h.writes h.q
  refine ite_prop _ (fun hb => ⟨rfl, ?_, ?_, h.set_s _, rfl⟩) fun hb =>
    ite_not_true q.ok ⟨rfl, congrArg (fun s : Snap => { s with buf := [], offset := s.offset + n }) q.eff.s, ?_,
      (h.of_eff q.eff).set_s _, q.eff.attempted⟩
  · show _ = ({ st.s with buf := [], offset := st.s.offset + n } : Snap)
    rw [← hb]
  · rw [applyAll_flushOps, if_pos hb]; rfl
  · rw [applyAll_flushOps, if_neg hb]; exact q.eff.fs

/-- the periodic flush and the offset update of `appendBytes` -/
def afterWrite (s : Snap) (n : Nat) : Snap × List FsOp :=
  if s.flushDue then ({ s with buf := [], flushDue := false, offset := s.offset + n }, flushOps .main s.buf)
  else ({ s with offset := s.offset + n }, [])

theorem appendBytes_eq (s : Snap) (l : Bytes) :
    appendBytes s l = ((afterWrite { s with buf := (bufWrite s.buf l).1 } l.length).1,
      (bufWrite s.buf l).2.map (.write .main) ++ (afterWrite { s with buf := (bufWrite s.buf l).1 } l.length).2) := by
  unfold appendBytes afterWrite
  split
  · rfl
  · exact congrArg (Prod.mk _) (List.append_nil _).symm

-- `s0` is a variable so that the caller can say what the state is without rewriting inside `st`
theorem fAfterWrite_ok (st : FSnap) (n : Nat) {s0 : Snap} (hs : st.s = s0) (h : Fine st) :
    Ok st (afterWrite s0 n) (fAfterWrite st n) := by
  subst hs
  unfold afterWrite
  refine ite_prop _ (fun c => ?_) fun c => ?_
  · rw [if_pos c]; exact (fFlushDue_ok { st with s := { st.s with flushDue := false } } n (h.set_s _)).of_set_s
  · rw [if_neg c]; exact ⟨rfl, rfl, rfl, h.set_s _, rfl⟩

theorem fAppendBytes_ok (st : FSnap) (l : Bytes) (h : Fine st) : Ok st (appendBytes st.s l) (fAppendBytes st l) := by
  have hw := doWrites_done .main h.writes (bufWrite st.s.buf l).2 st h.q
  have ha := fAfterWrite_ok { (doWrites st .main (!st.fhClosed) (bufWrite st.s.buf l).2).1 with s := _ } l.length
    (congrArg (fun s : Snap => { s with buf := (bufWrite st.s.buf l).1 }) hw.eff.s) ((h.of_eff hw.eff).set_s _)
  rw [appendBytes_eq]
  refine ite_not_true h.q.p.writer (ite_prop _ (fun c => ?_) fun _ =>
    ite_not_true hw.ok (ha.of_set_s.after hw.eff.fs hw.eff.attempted))
  rw [h.sticky] at c; cases c

/-- `Flush` of a bufio writer that holds `b` -/
theorem flush_done (st : FSnap) (p : Path) (b : Bytes) (h : Q st) :
    Done st (flushOps p b) (if b = [] then (st, true) else doOp st (.write p b)) :=
  have q := doOp_done st (.write p b) h
  ite_prop _ (fun c => ⟨rfl, { Eff.refl h with fs := by rw [applyAll_flushOps, if_pos c] }⟩) fun c =>
    ⟨q.ok, { q.eff with fs := by rw [applyAll_flushOps, if_neg c]; exact q.eff.fs }⟩

theorem fCompactFront_done (st : FSnap) (s : Snap) (h : Q st) :
    Done st (compactTmpOps Order.id s) (fCompactFront st (compactLines Order.id s)) :=
  have q1 := doOp_done st (.openTrunc .tmp) h
  have q2 := doWrites_done .tmp rfl (bufWriteAll [] (compactLines Order.id s)).2 _ q1.eff.q
  have q3 := flush_done _ .tmp (bufWriteAll [] (compactLines Order.id s)).1 q2.eff.q
  have q4 := doOp_done _ (.sync .tmp) q3.eff.q
  have q5 := doOp_done _ (.close .tmp) q4.eff.q
  ite_not_true q1.ok (ite_not_true q2.ok (ite_not_true q3.ok (ite_not_true q4.ok
    (Done.mk rfl (((q1.eff.trans q2.eff).trans q3.eff).trans (q4.eff.trans q5.eff))))))

/-- what the flush and the close of the old handles leave alone, even when they fail for real: `path.compact`,
the recovery flag, the state but for its buffer -/
structure OldKeep (a b : FSnap) : Prop where
  tmp : (mfs b).tmp = (mfs a).tmp
  attempted : b.attempted = a.attempted
  s : ({ b.s with buf := [] } : Snap) = { a.s with buf := [] }

theorem OldKeep.of_eq {a b c : FSnap} (h : OldKeep a b) (hd : c.done = b.done) (ha : c.attempted = b.attempted)
    (hs : ({ c.s with buf := [] } : Snap) = { b.s with buf := [] }) : OldKeep a c :=
  ⟨(congrArg (fun d => (FS.applyAll {} d).tmp) hd).trans h.tmp, ha.trans h.attempted, hs.trans h.s⟩

theorem doOpW_old {a : FSnap} (st : FSnap) (op : FsOp) (w : Bool) (h : OldKeep a st) (hop : ∀ fs : FS, (fs.apply op).tmp = fs.tmp) :
    OldKeep a (doOpW st op w).1 :=
  ite_prop (fun r : FSnap × Bool => OldKeep a r.1) (fun _ => h.of_eq rfl rfl rfl) fun _ =>
    ite_prop (fun r : FSnap × Bool => OldKeep a r.1)
      (fun _ => ⟨(congrArg FS.tmp (applyAll_append _ _ _)).trans ((hop _).trans h.tmp), h.attempted, h.s⟩)
      (fun _ => h.of_eq rfl rfl rfl)

theorem old_keep (st : FSnap) (h : st.nilOnSwap = false) : OldKeep st (fOldClose st.nilOnSwap (fOldFlush st)) := by
  have q := doOpW_old st (.write .main st.s.buf) (!st.fhClosed) ⟨rfl, rfl, rfl⟩ fun fs => apply_write_main_tmp fs _
  have f : OldKeep st (fOldFlush st) :=
    ite_prop _ (fun _ => ⟨rfl, rfl, rfl⟩) fun _ => ite_prop _ (fun _ => q.of_eq rfl rfl rfl) (fun _ => q.of_eq rfl rfl rfl)
  have c : OldKeep st (if (fOldFlush st).fh then (doOp (fOldFlush st) (.close .main)).1 else fOldFlush st) :=
    ite_prop _ (fun _ => doOpW_old _ _ true f fun _ => rfl) (fun _ => f)
  exact ite_prop _ (fun n => Bool.noConfusion (h.symm.trans n)) fun _ => c.of_eq rfl rfl rfl

theorem Eff.set_mainExists {st : FSnap} (h : Q st) (b : Bool) : Eff st { st with mainExists := b } [] :=
  ⟨rfl, rfl, rfl, rfl, rfl, (Frame.set_mainExists st b).q h, rfl⟩

/-- remove, rename, reopen as one chain of fault-free operations, then the new handles are installed.
`s0`: the state before the old handles were flushed. -/
theorem fSwapTail_ok (st : FSnap) (total : Nat) (h : Q st) {s0 : Snap} (hs : ({ st.s with buf := [] } : Snap) = { s0 with buf := [] }) :
    Ok st ({ s0 with buf := [], offset := total, flushDue := false, ncompact := s0.ncompact + 1, block := s0.alive },
      [.remove .main, .rename .tmp .main, .openAppend .main]) (fSwapTail st total) := by
  unfold fSwapTail
  have ⟨_, hrm, _⟩ := h
  have q8 := doOpW_done st (.remove .main) (w := st.mainExists || !st.removeMissingFails) (by rw [hrm, Bool.not_false, Bool.or_true]) h
  generalize doOpW st (.remove .main) (st.mainExists || !st.removeMissingFails) = r8 at q8 ⊢
  refine ite_not_true q8.ok ?_
  dsimp only
  have e8 := q8.eff.trans (Eff.set_mainExists q8.eff.q false)
  have q9 := doOp_done _ (.rename .tmp .main) e8.q
  generalize doOp { r8.1 with mainExists := false } (.rename .tmp .main) = r9 at q9 ⊢
  refine ite_not_true q9.ok ?_
  have e9 := (e8.trans q9.eff).trans (Eff.set_mainExists q9.eff.q true)
  have q10 := doOp_done _ (.openAppend .main) e9.q
  generalize doOp { r9.1 with mainExists := true } (.openAppend .main) = r10 at q10 ⊢
  have e := e9.trans q10.eff
  exact ite_not_true q10.ok ⟨rfl,
    congrArg (fun s : Snap => { s with offset := total, flushDue := false, ncompact := s.ncompact + 1, block := s.alive })
      ((congrArg (fun s : Snap => { s with buf := [] }) e.s).trans hs),
    e.fs, ⟨(Frame.fresh _ ⟨rfl, rfl, rfl⟩).q e.q, rfl, rfl, rfl⟩, e.attempted⟩

/-- With no fault ahead a compaction succeeds and does what the fault-free `compact` does, on fresh handles, whatever
the faulty phase did to the old file and the old handles (their flush and close may still fail for real: `old_keep`). -/
theorem fCompact_ok (st : FSnap) (h : Q st) : Ok st (compact Order.id st.s) (fCompact st) := by
  have q := fCompactFront_done st st.s h
  have o := old_keep _ q.eff.q.p.shape
  have t := fSwapTail_ok _ (compactLines Order.id st.s).flatten.length ((old_frame _).q q.eff.q)
    (o.s.trans (congrArg (fun s : Snap => { s with buf := [] }) q.eff.s))
  refine ite_not_true q.ok (ite_not_true q.eff.q.p.writer
    ⟨t.ok, t.s, ?_, t.fine, t.attempted.trans (o.attempted.trans q.eff.attempted)⟩)
  rw [t.fs, compact_result_fs]
  refine swap_fs_main (o.tmp.trans ?_)
  rw [q.eff.fs]; exact (compactTmpOps_result Order.id st.s _).1

theorem fCompact_restores (st : FSnap) (h : Q st) (hwf : WFRec st.s.mem) :
    Fine (fCompact st).1 ∧ Inv (fCompact st).1.s (mfs (fCompact st).1) := by
  have c := fCompact_ok st h
  rw [c.s, c.fs]
  exact ⟨c.fine, compact_inv Order.id (fun _ m => List.Perm.refl m) st.s _ hwf⟩

/-- `st'` is what the fault-free model computes from `st`: same snapshotter state, the
directory advanced by the model's operations, fresh handles, a snapshot file in place -/
structure Sim (st st' : FSnap) (r : Snap × List FsOp) : Prop where
  s : st'.s = r.1
  fs : mfs st' = (mfs st).applyAll r.2
  fine : Fine st'
  main : ∃ d, (mfs st').main = some d
  attempted : st'.attempted = st.attempted

theorem Sim.refl {st : FSnap} (h : Fine st) (hm : ∃ d, (mfs st).main = some d) : Sim st st (st.s, []) :=
  ⟨rfl, rfl, h, hm, rfl⟩

theorem Sim.trans {a b c : FSnap} {r1 r2 : Snap × List FsOp} (h1 : Sim a b r1) (h2 : Sim b c r2) :
    Sim a c (r2.1, r1.2 ++ r2.2) :=
  ⟨h2.s, by rw [h2.fs, h1.fs, applyAll_append], h2.fine, h2.main, h2.attempted.trans h1.attempted⟩

theorem Ok.sim {st : FSnap} {m : Snap × List FsOp} {r : FSnap × Res} (h : Ok st m r) (hm : ∃ d, (mfs r.1).main = some d) :
    Sim st r.1 m := ⟨h.s, h.fs, h.fine, hm, h.attempted⟩

/-- a compaction leaves a snapshot file, whatever the directory was -/
theorem Ok.sim_compact {st : FSnap} {m : Snap × List FsOp} {r : FSnap × Res} (h : Ok st m r) {ops : List FsOp} {s : Snap}
    (e : m.2 = ops ++ (compact Order.id s).2) : Sim st r.1 m :=
  h.sim ⟨_, by rw [h.fs, e, applyAll_append, compact_result_fs]⟩

theorem fTryAppend_sim (st : FSnap) (l : Bytes) (h : Fine st) (hm : ∃ d, (mfs st).main = some d) :
    Sim st (fTryAppend st l) (appendLine Order.id st.s l) := by
  have b := fAppendBytes_ok st l h
  have c := (fCompact_ok _ b.fine.q).after b.fs b.attempted
  obtain ⟨d, hd⟩ := hm
  obtain ⟨d', hd', _⟩ := appendBytes_spec st.s l (mfs st) d hd
  unfold fTryAppend fAppendLine appendLine
  rw [b.s] at c
  simp only [b.ok, b.s]
  by_cases hc : (appendBytes st.s l).1.offset > maxSize (appendBytes st.s l).1
  · simp only [hc, ↓reduceIte, c.ok]; exact c.sim_compact rfl
  · simp only [hc, ↓reduceIte, b.ok]; exact b.sim ⟨d', by rw [b.fs]; exact hd'⟩

/-- on fresh handles the flush of a leave or shutdown is the periodic flush of an append of no bytes -/
theorem fFlush_eq (st : FSnap) (h : Fine st) : fFlush st = (fFlushDue st 0).1 := by
  unfold fFlush fFlushDue
  rw [if_neg h.q.p.ok, if_neg (by simp [h.q.p.writer])]
  by_cases hb : st.s.buf = []
  · rw [if_pos (by simp [hb]), if_pos hb]
    rfl
  · rw [if_neg (by simp [hb, h.sticky]), if_neg hb]
    simp only [(doOpW_done st (.write .main st.s.buf) h.writes h.q).ok]
    rfl

theorem fFlush_sim (st : FSnap) (h : Fine st) (hm : ∃ d, (mfs st).main = some d) :
    Sim st (fFlush st) ({ st.s with buf := [] }, flushOps .main st.s.buf) := by
  obtain ⟨d, hd⟩ := hm
  have k := fFlushDue_ok st 0 h
  rw [fFlush_eq st h]
  exact k.sim ⟨d ++ st.s.buf, by rw [k.fs, applyAll_flush .main _ d _ hd]; rfl⟩

theorem fRecord_sim (st : FSnap) (ln : Line) (h : Fine st) (hm : ∃ d, (mfs st).main = some d) :
    Sim st (fRecord st ln) (record Order.id st.s ln) :=
  have := fTryAppend_sim { st with s := st.s.note ln } (printLine ln) (h.set_s _) hm
  ⟨this.s, this.fs, this.fine, this.main, this.attempted⟩

theorem foldl_fRecord_sim (lns : List Line) : ∀ st : FSnap, Fine st → (∃ d, (mfs st).main = some d) →
    Sim st (lns.foldl fRecord st) (recordAll Order.id st.s lns) := by
  induction lns with
  | nil => intro st h hm; exact Sim.refl h hm
  | cons l lns ih =>
    intro st h hm
    have h1 := fRecord_sim st l h hm
    have h2 := ih _ h1.fine h1.main
    rw [h1.s] at h2
    exact Sim.trans h1 h2

theorem fStep_sim (st : FSnap) (ev : Ev) (hne : ev ≠ .leave) (h : Fine st) (hm : ∃ d, (mfs st).main = some d) :
    Sim st (fStep st (.ev ev)) (step Order.id st.s ev) := by
  rw [fStep_eq st ev h.q.p, step_eq]
  cases ev with
  | leave => exact absurd rfl hne
  | timePasses => exact ⟨rfl, rfl, h.set_s _, hm, rfl⟩
  | forceCompact => exact (fCompact_ok st h.q).sim_compact (ops := []) rfl
  | _ => exact foldl_fRecord_sim _ st h hm

theorem fRun_sim (evs : List Ev) : ∀ (st : FSnap), Ev.leave ∉ evs → Fine st → (∃ d, (mfs st).main = some d) →
    Sim st (fRun st (evs.map .ev)) (run Order.id st.s evs) := by
  induction evs with
  | nil => intro st _ h hm; exact Sim.refl h hm
  | cons e es ih =>
    intro st hn h hm
    simp only [List.mem_cons, not_or] at hn
    have h1 := fStep_sim st e (fun x => hn.1 x.symm) h hm
    have h2 := ih _ hn.2 h1.fine h1.main
    rw [h1.s] at h2
    rw [run_cons]
    simp only [List.map_cons, fRun]
    exact Sim.trans h1 h2

theorem shutdown_fst' (ord : Order) (s : Snap) (clk : Nat) :
    (shutdown ord s clk).1 = { (updateClock ord s clk).1 with buf := [] } := rfl
theorem shutdown_snd' (ord : Order) (s : Snap) (clk : Nat) :
    (shutdown ord s clk).2 = (updateClock ord s clk).2 ++ flushOps .main (updateClock ord s clk).1.buf ++ [.sync .main, .close .main] := rfl

/-- after `u`: the flush, then sync and close (stated for variables: in `fShutdown_sim` the kernel must not reduce
a projection of the states, see `shutdown_inv`) -/
theorem Sim.flushed {st b1 b2 x : FSnap} {u : Snap × List FsOp} (h1 : Sim st b1 u)
    (h2 : Sim b1 b2 ({ u.1 with buf := [] }, flushOps .main u.1.buf)) (e : Eff b2 x [.sync .main, .close .main]) :
    Sim st x (flushed u [.sync .main, .close .main]) := by
  obtain ⟨d, hd⟩ := h2.main
  refine ⟨e.s.trans h2.s, ?_, h2.fine.of_eff e, ⟨d, by rw [e.fs]; exact hd⟩, e.attempted.trans (h2.attempted.trans h1.attempted)⟩
  show _ = (mfs st).applyAll (u.2 ++ flushOps .main u.1.buf ++ [.sync .main, .close .main])
  rw [e.fs, h2.fs, h1.fs, applyAll_append, applyAll_append]

theorem fShutdown_sim (st : FSnap) (clk : Nat) (h : Fine st) (hm : ∃ d, (mfs st).main = some d) :
    Sim st (fShutdown st clk) (shutdown Order.id st.s clk) := by
  have h1 := foldl_fRecord_sim (clockLines st.s clk) st h hm
  rw [← fUpdateClock_eq] at h1
  rw [shutdown_eq]
  unfold fShutdown
  rw [if_neg h.q.p.ok]
  dsimp only
  generalize fUpdateClock st clk = b1 at h1 ⊢
  generalize recordAll Order.id st.s (clockLines st.s clk) = u at h1 ⊢
  have h2 := fFlush_sim b1 h1.fine h1.main
  rw [h1.s] at h2
  generalize fFlush b1 = b2 at h2 ⊢
  -- nothing panicked, the file handle is there: sync and close are performed
  have e1 := doOp_done b2 (.sync .main) h2.fine.q
  rw [if_neg h2.fine.q.p.ok, if_pos h2.fine.fh, if_pos (e1.eff.fh.trans h2.fine.fh)]
  exact h1.flushed h2 (e1.eff.trans (doOp_done _ (.close .main) e1.eff.q).eff)

/-- **Recording resumes**: from any state in which the single fault lies in the past (`Q`; between two events or inside
one), a compaction followed by any further history and shutdown ends without panic, and a restart recovers from the
file the state the node has in memory at that shutdown. -/
theorem resumes_after_compaction (st : FSnap) (hq : Q st) (hwf : WFRec st.s.mem) (hl : st.s.leaving = false)
    (evs : List Ev) (clk : Nat) (hw : ∀ e ∈ evs, WFEv e) (hnl : Ev.leave ∉ evs) :
    (fShutdown (fRun (fCompact st).1 (evs.map .ev)) clk).panicked = false ∧
    RecEq (recover st.s.rejoin (mfs (fShutdown (fRun (fCompact st).1 (evs.map .ev)) clk)))
      (fShutdown (fRun (fCompact st).1 (evs.map .ev)) clk).s.mem ∧
    WFRec (fShutdown (fRun (fCompact st).1 (evs.map .ev)) clk).s.mem := by
  obtain ⟨hfine, hinv⟩ := fCompact_restores st hq hwf
  have hs2 := (fCompact_ok st hq).s
  generalize (fCompact st).1 = st2 at hfine hinv hs2 ⊢
  have hm : ∃ d, (mfs st2).main = some d := by obtain ⟨d, hd, _⟩ := hinv; exact ⟨d, hd⟩
  have hrj : st2.s.rejoin = st.s.rejoin := by rw [hs2]; rfl
  have hl2 : st2.s.leaving = false := by rw [hs2]; exact hl
  have h1 := fRun_sim evs st2 hnl hfine hm
  generalize fRun st2 (evs.map .ev) = b at h1 ⊢
  have h2 := fShutdown_sim b clk h1.fine h1.main
  rw [h1.s] at h2
  generalize fShutdown b clk = fin at h2 ⊢
  have key := restore_generic Order.id (fun _ m => List.Perm.refl m) st2.s (mfs st2) hinv hl2 evs clk hw hnl
  rw [hrj] at key
  have hfs : mfs fin = ((mfs st2).applyAll (run Order.id st2.s evs).2).applyAll (shutdown Order.id (run Order.id st2.s evs).1 clk).2 := by
    rw [h2.fs, h1.fs]
  rw [hfs, h2.s]
  exact ⟨h2.fine.q.p.panicked, key⟩

end SerfProofs.SnapshotFault
