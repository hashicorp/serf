/-
logWriter (C29): a write turns the ring by one slot (`ring_write`), so the ring read from its oldest slot is always the
last `cap` entries of the padded history (`RingInv`), and what a new handler is sent first (`backlog`) is the last
`min cap |history|` lines.
-/
import SerfModel.Model.LogWriters
namespace SerfProofs.LogWriter
open SerfModel SerfModel.LogWriters

/-- The ring read from its oldest slot. -/
def ring (w : LW) : List String := w.logs.drop w.index ++ w.logs.take w.index

theorem write_eq (w : LW) (l : String) (hc : 0 < w.logs.length) :
    w.write l = { w with logs := w.logs.set w.index l, index := (w.index + 1) % w.logs.length,
                         full := w.full || ((w.index + 1) % w.logs.length == 0),
                         handlers := w.handlers.map fun p => (p.1, p.2 ++ [l]) } :=
  if_neg (Nat.ne_of_gt hc)

theorem ring_write (w : LW) (l : String) (hi : w.index < w.logs.length) : ring (w.write l) = (ring w).drop 1 ++ [l] := by
  rw [write_eq w l (Nat.zero_lt_of_lt hi)]
  -- `logs = l₁ ++ x :: l₂` with `|l₁| = index`: both rings become explicit appends; the index wraps iff `l₂ = []`
  obtain ⟨l₁, l₂, hl, hlen, hset⟩ := List.exists_of_set (a' := l) hi
  simp only [ring, hset]
  generalize w.logs[w.index] = x at hl
  rw [hl, ← hlen]
  simp only [List.length_append, List.length_cons, List.drop_left', List.take_left', List.drop_one, List.tail_cons,
    List.cons_append]
  by_cases hlast : l₂ = []
  · subst hlast
    simp
  · have : l₁.length + 1 < l₁.length + (l₂.length + 1) := by
      have := List.length_pos_iff.mpr hlast; omega
    rw [Nat.mod_eq_of_lt this, show l₁ ++ l :: l₂ = (l₁ ++ [l]) ++ l₂ by simp,
      show l₁.length + 1 = (l₁ ++ [l]).length by simp, List.drop_left, List.take_left, List.append_assoc]

def writes (w : LW) (ls : List String) : LW := ls.foldl LW.write w

structure RingInv (cap : Nat) (w : LW) (h : List String) : Prop where
  len : w.logs.length = cap
  index : w.index = h.length % cap
  slots : ring w = (List.replicate cap "" ++ h).drop h.length
  full : w.full = decide (cap ≤ h.length)

theorem RingInv.handlers {cap : Nat} {w : LW} {h : List String} (hi : RingInv cap w h) (hs : List (Nat × List String)) :
    RingInv cap { w with handlers := hs } h := ⟨hi.1, hi.2, hi.3, hi.4⟩

theorem RingInv.new (cap : Nat) (hc : 0 < cap) : RingInv cap (LW.new cap) [] :=
  ⟨List.length_replicate, (Nat.zero_mod _).symm, by simp [ring, LW.new], (decide_eq_false (Nat.not_le.mpr hc)).symm⟩

theorem RingInv.write {cap : Nat} (hc : 0 < cap) {w : LW} {h : List String} (hi : RingInv cap w h) (l : String) :
    RingInv cap (w.write l) (h ++ [l]) := by
  have hidx : w.index < w.logs.length := by rw [hi.len, hi.index]; exact Nat.mod_lt _ hc
  have hr := ring_write w l hidx
  rw [write_eq w l (Nat.zero_lt_of_lt hidx)] at hr ⊢
  have hnext : (w.index + 1) % w.logs.length = (h ++ [l]).length % cap := by
    rw [hi.len, hi.index, Nat.mod_add_mod, List.length_append, List.length_singleton]
  refine ⟨hi.len ▸ List.length_set, hnext, ?_, ?_⟩
  · rw [hr, hi.slots, List.drop_drop, List.length_append, List.length_singleton, ← List.append_assoc,
      List.drop_append_of_le_length (l₁ := List.replicate cap "" ++ h) (by simp; omega)]
  · show (w.full || (w.index + 1) % w.logs.length == 0) = decide (cap ≤ (h ++ [l]).length)
    rw [hnext, hi.full, List.length_append, List.length_singleton]
    -- the ring becomes full exactly when the index wraps for the first time
    by_cases hk : cap ≤ h.length
    · rw [decide_eq_true hk, decide_eq_true (Nat.le_succ_of_le hk)]; rfl
    · rw [decide_eq_false hk, Bool.false_or]
      by_cases he : h.length + 1 = cap
      · rw [he, Nat.mod_self, decide_eq_true (Nat.le_refl _)]; rfl
      · have hlt : h.length + 1 < cap := Nat.lt_of_le_of_ne (Nat.lt_of_not_le hk) he
        rw [Nat.mod_eq_of_lt hlt, decide_eq_false (Nat.not_le.mpr hlt)]; rfl

theorem RingInv.writes {cap : Nat} (hc : 0 < cap) (ls : List String) {w : LW} {h : List String} (hi : RingInv cap w h) :
    RingInv cap (writes w ls) (h ++ ls) := by
  induction ls generalizing w h with
  | nil => exact (List.append_nil h).symm ▸ hi
  | cons l ls ih => exact List.append_cons h l ls ▸ ih (hi.write hc l)

/-- What a newly registered handler receives first. -/
def backlog (w : LW) : List String :=
  (if w.full then w.logs.drop w.index else []) ++ w.logs.take w.index

theorem backlog_eq {cap : Nat} {w : LW} {h : List String} (hi : RingInv cap w h) :
    backlog w = h.drop (h.length - cap) := by
  have hs := hi.slots
  unfold backlog
  rw [hi.full]
  by_cases hk : cap ≤ h.length
  · -- a full ring is replayed whole: the padding has been pushed out
    rw [decide_eq_true hk, if_pos rfl]
    rw [List.drop_append, List.drop_of_length_le (by simp; omega), List.nil_append, List.length_replicate] at hs
    exact hs
  · -- before the first wrap the slots up to `index` are the history
    have hlt : h.length < cap := Nat.lt_of_not_le hk
    rw [decide_eq_false hk, if_neg Bool.false_ne_true, List.nil_append, Nat.sub_eq_zero_of_le (Nat.le_of_lt hlt), List.drop_zero,
      hi.index, Nat.mod_eq_of_lt hlt]
    rw [ring, hi.index, Nat.mod_eq_of_lt hlt, List.drop_append_of_le_length (by simp; omega)] at hs
    have hlen : (w.logs.drop h.length).length = (List.drop h.length (List.replicate cap "")).length := by
      simp [hi.len]
    exact (List.append_inj hs hlen).2

theorem writes_handlers (ls : List String) (w : LW) (hc : 0 < w.logs.length) :
    (writes w ls).logs.length = w.logs.length ∧ (writes w ls).handlers = w.handlers.map fun p => (p.1, p.2 ++ ls) := by
  induction ls generalizing w with
  | nil => exact ⟨rfl, by simp [writes]⟩
  | cons l ls ih =>
    have hw := write_eq w l hc
    have hlen : (w.write l).logs.length = w.logs.length := by rw [hw]; exact List.length_set
    obtain ⟨a, b⟩ := ih (w.write l) (hlen ▸ hc)
    refine ⟨a.trans hlen, b.trans ?_⟩
    rw [hw]
    simp [List.map_map, Function.comp_def]

end SerfProofs.LogWriter
