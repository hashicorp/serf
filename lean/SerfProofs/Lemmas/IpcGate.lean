/-
The IPC gate (C24).  A step of the connection emits one of five things (`Passes.silent` … `Passes.effect`); what passes
the output scan `gateOK` from the flags of the new state (`version ≠ 0`, `didAuth`) passes it, behind the step's outputs,
from the flags of the old one (`Passes.scan`), so the scan of a whole run follows by induction.
-/
import SerfModel.Model.IpcGate
import SerfProofs.Lemmas.Ite
namespace SerfProofs.IpcGate
open SerfModel SerfModel.IpcGate

theorem gateOK_append (k : Bool) (a b : List Out) (hs au : Bool) :
    gateOK k hs au (a ++ b) =
      (gateOK k hs au a && gateOK k (hs || a.any Out.isHandshakeOk) (au || a.any Out.isAuthOk) b) := by
  induction a generalizing hs au with
  | nil => simp [gateOK]
  | cons o a ih =>
    simp only [List.cons_append, gateOK, ih, List.any_cons, Bool.or_assoc, Bool.and_assoc]

theorem rejects_none {key : String} {s : St} {h : Hdr} (hr : rejects key s h = none) :
    (h.cmd ≠ "handshake" → s.version ≠ 0) ∧
    (h.cmd ≠ "handshake" → h.cmd ≠ "auth" → key = "" ∨ s.didAuth = true) := by
  unfold rejects at hr
  by_cases g1 : (h.cmd != "handshake" && s.version == 0) = true
  · rw [if_pos g1] at hr; cases hr
  · by_cases g2 : (key != "" && !s.didAuth && h.cmd != "auth" && h.cmd != "handshake") = true
    · rw [if_neg g1, if_pos g2] at hr; cases hr
    · simp only [Bool.and_eq_true, bne_iff_ne, beq_iff_eq, Bool.not_eq_true', not_and, Decidable.not_not] at g1 g2
      refine ⟨g1, fun h1 h2 => Decidable.or_iff_not_imp_left.mpr fun hk => ?_⟩
      cases hd : s.didAuth
      · exact absurd (g2 ⟨⟨hk, hd⟩, h2⟩) h1
      · rfl

/-- A handler waiting for its body was let through by both gates. -/
def Ready (key : String) (s : St) : Prop := s.mode = .body → rejects key s s.hdr = none

structure Passes (key : String) (s : St) (r : St × List Out) : Prop where
  scan : ∀ rest, gateOK (key != "") (r.1.version != 0) r.1.didAuth rest = true →
    gateOK (key != "") (s.version != 0) s.didAuth (r.2 ++ rest) = true
  ready : Ready key r.1
  key_only : ∀ p, Out.auth p true ∈ r.2 → p = key

variable {key : String} {s s' : St}

theorem Passes.silent (hv : s'.version = s.version) (ha : s'.didAuth = s.didAuth) (hr : Ready key s') :
    Passes key s (s', []) :=
  ⟨fun _ h => hv ▸ ha ▸ h, hr, fun _ h => nomatch h⟩

/- The four emitting cases: `gateOK` is evaluated on the one or two literal outputs, and the hypotheses are the flags that
evaluation asks for (none for an error reply; `version ≠ 0` and the key condition for an effect). -/
theorem Passes.error {seq : Nat} {e : Err} (he : (e == .ok || e == .handler) = false)
    (hv : s'.version = s.version) (ha : s'.didAuth = s.didAuth) (hr : Ready key s') :
    Passes key s (s', [.reply seq e false]) := by
  simp only [Bool.or_eq_false_iff] at he
  constructor <;> simp [gateOK, Out.isEffect, Out.isGuarded, Out.isHandshakeOk, Out.isAuthOk, hv, ha, he, hr]

theorem Passes.handshake {seq : Nat} (hv : s'.version ≠ 0) (ha : s'.didAuth = s.didAuth) (hr : Ready key s') :
    Passes key s (s', [.handshakeOk, .reply seq .ok false]) := by
  constructor <;> simp [gateOK, Out.isEffect, Out.isGuarded, Out.isHandshakeOk, Out.isAuthOk, bne_iff_ne.mpr hv, ha, hr]

theorem Passes.auth {seq : Nat} {k : String} {b : Bool} {e : Err} (he : (e == .handler) = false) (h0 : s.version ≠ 0)
    (hb : b = true → k = key) (hv : s'.version = s.version) (ha : s'.didAuth = (s.didAuth || b)) (hr : Ready key s') :
    Passes key s (s', [.auth k b, .reply seq e false]) := by
  constructor <;> simp [gateOK, Out.isEffect, Out.isGuarded, Out.isHandshakeOk, Out.isAuthOk, hv, ha, he, h0, hr]
  exact hb

theorem Passes.effect {seq : Nat} {c a : String} {d : Bool} (h0 : s.version ≠ 0) (hk : key = "" ∨ s.didAuth = true)
    (hv : s'.version = s.version) (ha : s'.didAuth = s.didAuth) (hr : Ready key s') :
    Passes key s (s', [.effect c a, .reply seq .handler d]) := by
  constructor <;> simp [gateOK, Out.isEffect, Out.isGuarded, Out.isHandshakeOk, Out.isAuthOk, hv, ha, h0, hr]
  rcases hk with hk | hk <;> simp [hk]

theorem ready_of_header (h : s.mode = .header) : Ready key s := fun hb => nomatch h.symm.trans hb

theorem onHeader_passes (key : String) (s : St) (h : Hdr) (hm : s.mode = .header) :
    Passes key s (onHeader key s h) := by
  have hr : Ready key { s with hdr := h } := ready_of_header hm
  unfold onHeader
  refine ite_prop _ (fun _ => .error rfl rfl rfl (ready_of_header hm)) fun g1 => ?_
  refine ite_prop _ (fun _ => .error rfl rfl rfl hr) fun g2 => ?_
  -- both gates passed: a handler that reads a body will be `Ready`
  have hpass : rejects key s h = none := by rw [rejects, if_neg g1, if_neg g2]
  refine ite_prop _ (fun _ => .silent rfl rfl fun _ => hpass) fun c => ?_
  simp only [Bool.or_eq_true, beq_iff_eq, not_or] at c
  cases cmdInfo h.cmd with
  | none => exact .error rfl rfl rfl (ready_of_header hm)
  | some p =>
    obtain ⟨b, d⟩ := p
    cases b
    · exact .effect ((rejects_none hpass).1 c.1) ((rejects_none hpass).2 c.1 c.2) rfl rfl hr
    · exact .silent rfl rfl fun _ => hpass

theorem onBody_passes {Obj : Type} (cd : Codec Obj) (key : String) (s : St) (o : Obj)
    (hm : s.mode = .body) (hr : Ready key s) : Passes key s (onBody cd key s o) := by
  have hpass := rejects_none (hr hm)
  have hh : Ready key { s with mode := .header } := ready_of_header rfl
  unfold onBody
  refine ite_prop _ (fun _ => ?_) fun c1 => ?_
  · cases cd.version o with
    | none => exact .silent rfl rfl hr
    | some v =>
      refine ite_prop _ (fun _ => .error rfl rfl rfl hh) fun r => ?_
      refine ite_prop _ (fun _ => .error rfl rfl rfl hh) fun _ => ?_
      refine .handshake (fun (hv : v = 0) => r ?_) rfl (ready_of_header rfl)
      rw [hv]; decide
  · have h0 : s.version ≠ 0 := hpass.1 (by simpa using c1)
    refine ite_prop _ (fun _ => ?_) fun c2 => ?_
    · cases cd.authKey o with
      | none => exact .silent rfl rfl hr
      | some k =>
        refine ite_prop _ (fun e => ?_) fun _ => ?_
        · exact .auth rfl h0 (fun _ => eq_of_beq e) rfl (Bool.or_true _).symm (ready_of_header rfl)
        · exact .auth rfl h0 (fun h => nomatch h) rfl (Bool.or_false _).symm hh
    · cases cd.body s.hdr.cmd o with
      | none => exact .silent rfl rfl hr
      | some a => exact .effect h0 (hpass.2 (by simpa using c1) (by simpa using c2)) rfl rfl hh

theorem step_passes {Obj : Type} (cd : Codec Obj) (key : String) (s : St) (o : Obj) (hr : Ready key s) :
    Passes key s (step cd key s o) := by
  unfold step
  refine ite_prop _ (fun _ => .silent rfl rfl hr) fun _ => ?_
  cases hm : s.mode with
  | body => exact onBody_passes cd key s o hm hr
  | header =>
    cases cd.hdr s.hdr o with
    | none => exact .silent rfl rfl (ready_of_header rfl)
    | some h => exact onHeader_passes key s h hm

theorem runFrom_passes {Obj : Type} (cd : Codec Obj) (key : String) (objs : List Obj) (s : St) (hr : Ready key s) :
    gateOK (key != "") (s.version != 0) s.didAuth (runFrom cd key s objs).2 = true ∧
    ∀ p, Out.auth p true ∈ (runFrom cd key s objs).2 → p = key := by
  induction objs generalizing s with
  | nil => exact ⟨rfl, fun _ h => nomatch h⟩
  | cons o rest ih =>
    have h := step_passes cd key s o hr
    obtain ⟨ih1, ih2⟩ := ih _ h.ready
    rw [runFrom]
    exact ⟨h.scan _ ih1, fun p hp => (List.mem_append.mp hp).elim (h.key_only p) (ih2 p)⟩

theorem onHeader_rejected {key : String} {s : St} {h : Hdr} {e : Err} (hr : rejects key s h = some e) :
    (onHeader key s h).2 = [.reply h.seq e false] ∧ e ≠ .ok := by
  unfold rejects at hr
  unfold onHeader
  by_cases g1 : (h.cmd != "handshake" && s.version == 0) = true
  · rw [if_pos g1] at hr ⊢
    exact Option.some.inj hr ▸ ⟨rfl, nofun⟩
  · rw [if_neg g1] at hr ⊢
    by_cases g2 : (key != "" && !s.didAuth && h.cmd != "auth" && h.cmd != "handshake") = true
    · rw [if_pos g2] at hr ⊢
      exact Option.some.inj hr ▸ ⟨rfl, nofun⟩
    · rw [if_neg g2] at hr; cases hr

theorem isHandshakeOk_eq {x : Out} (h : x.isHandshakeOk = true) : x = .handshakeOk := by
  cases x with
  | handshakeOk => rfl
  | _ => cases h

theorem isAuthOk_eq {x : Out} (h : x.isAuthOk = true) : ∃ p, x = .auth p true := by
  cases x with
  | auth p ok => exact ⟨p, congrArg _ h⟩
  | _ => cases h

theorem gateOK_split {k : Bool} {pre post : List Out} {o : Out} {hs au : Bool}
    (h : gateOK k hs au (pre ++ o :: post) = true) :
    (o.isEffect = true → hs = true ∨ Out.handshakeOk ∈ pre) ∧
    (o.isGuarded = true → k = true → au = true ∨ ∃ p, Out.auth p true ∈ pre) := by
  rw [gateOK_append] at h
  simp only [gateOK, Bool.and_eq_true, Bool.or_eq_true, Bool.not_eq_true', List.any_eq_true] at h
  obtain ⟨_, ⟨⟨he, hg⟩, _⟩⟩ := h
  refine ⟨fun ho => (he.resolve_left (by simp [ho])).imp_right fun ⟨x, hx, hxe⟩ => ?_,
    fun ho hk => (hg.resolve_left (by simp [ho, hk])).imp_right fun ⟨x, hx, hxe⟩ => ?_⟩
  · exact isHandshakeOk_eq hxe ▸ hx
  · obtain ⟨p, rfl⟩ := isAuthOk_eq hxe
    exact ⟨p, hx⟩

end SerfProofs.IpcGate
