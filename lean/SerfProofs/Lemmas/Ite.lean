/-!
Case analysis on an `if` without simplifying the rest of the goal.

Encoders, decoders and handlers of the model are chains of `if`s over a large body.  `split` re-simplifies the
whole goal at every level of such a chain; `ite_prop` goes down one level and touches nothing else, and
`repeat' refine ite_prop P (fun _ => ?_) fun _ => ?_` turns a whole chain into its leaves, in order.
-/
namespace SerfProofs

theorem ite_prop {α} (P : α → Prop) {c : Prop} [Decidable c] {a b : α} (ha : c → P a) (hb : ¬ c → P b) :
    P (if c then a else b) := by
  split
  · exact ha ‹_›
  · exact hb ‹_›

/-- an early return guarded by `!t` is not taken when `t` holds -/
theorem ite_not_true {α} {P : α → Prop} {t : Bool} (ht : t = true) {a b : α} (hb : P b) : P (if !t then a else b) := by
  subst ht; exact hb

end SerfProofs
