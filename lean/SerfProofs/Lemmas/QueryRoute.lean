/-
Reply routing (C07): what the compound actions of `SerfModel.QueryRoute.act` do under the good lock shapes
(`act_timeout`, `act_arrive`, `replyStep_ind`; the other actions are plain record updates), and the two
invariants the actions keep: `Inv` (every schedule) and `Inv2` (schedules whose queries all come from `Serf.Query`).
-/
import SerfModel.Model.QueryRoute
import SerfProofs.Lemmas.Assoc
import SerfProofs.Lemmas.Ite
namespace SerfProofs.QueryRoute
open SerfModel SerfModel.QueryRoute

theorem modAt_eq_modify (f : QR → QR) : ∀ (l : List QR) (i : Nat), modAt f l i = l.modify i f
  | [], _ => by rw [modAt, List.modify_nil]
  | _ :: _, 0 => by rw [modAt, List.modify_zero_cons]
  | q :: qs, i + 1 => by rw [modAt, List.modify_succ_cons, modAt_eq_modify f qs i]

theorem getElem?_modAt (f : QR → QR) (l : List QR) (i j : Nat) :
    (modAt f l i)[j]? = (l[j]?).map fun q => if i = j then f q else q := by
  rw [modAt_eq_modify, List.getElem?_modify]; rfl

/-- `objs[i]` exists and has `P`: how the table and the in-flight reply refer to an object; kept by appending and by `modAt`. -/
def Holds (objs : List QR) (i : Nat) (P : QR → Prop) : Prop := ∃ q, objs[i]? = some q ∧ P q

theorem Holds.append {objs : List QR} {i : Nat} {P : QR → Prop} (more : List QR) : Holds objs i P → Holds (objs ++ more) i P
  | ⟨q, hq, hp⟩ => ⟨q, by rw [List.getElem?_append_left (List.getElem?_eq_some_iff.mp hq).1]; exact hq, hp⟩

theorem Holds.modAt {objs : List QR} {i : Nat} {P : QR → Prop} (f : QR → QR) (j : Nat) (hf : ∀ q, P q → P (f q)) :
    Holds objs i P → Holds (modAt f objs j) i P
  | ⟨q, hq, hp⟩ => ⟨_, by rw [getElem?_modAt, hq]; rfl, by split; exact hf q hp; exact hp⟩

theorem modAt_some {f : QR → QR} {l : List QR} {i j : Nat} {x : QR} (h : (modAt f l i)[j]? = some x) :
    ∃ q, l[j]? = some q ∧ x = if i = j then f q else q := by
  rw [getElem?_modAt] at h
  exact (Option.map_eq_some_iff.mp h).imp fun _ hq => ⟨hq.1, hq.2.symm⟩

theorem mem_modAt {f : QR → QR} {l : List QR} {i : Nat} {x : QR} (h : x ∈ modAt f l i) :
    x ∈ l ∨ ∃ q, l[i]? = some q ∧ x = f q := by
  obtain ⟨j, hj⟩ := List.mem_iff_getElem?.mp h
  obtain ⟨q, hq, rfl⟩ := modAt_some hj
  split
  next e => exact .inr ⟨q, e ▸ hq, rfl⟩
  · exact .inl (List.mem_of_getElem? hq)

def SentOK (now : Nat) (q : QR) (x : Sent) : Prop :=
  x.r.lt = q.lt ∧ x.r.id = q.id ∧ x.time < now ∧ ∀ c, q.closedAt = some c → x.time < c

theorem SentOK.mono {now : Nat} {q : QR} {x : Sent} : SentOK now q x → SentOK (now + 1) q x
  | ⟨a, b, c, d⟩ => ⟨a, b, Nat.lt_succ_of_lt c, d⟩

/-- What `C07_routing` says of one object, in the form the actions keep: `acks`/`resps` are the senders on the two logs (so
the duplicate check of stage 4 is a check on the streams), every record is `SentOK` at the step counter `now`, and the
four close flags agree. -/
structure QInv (now : Nat) (q : QR) : Prop where
  acks_eq : q.acks = q.ackLog.map (·.r.sender)
  resps_eq : q.resps = q.respLog.map (·.r.sender)
  acks_nodup : q.acks.Nodup
  resps_nodup : q.resps.Nodup
  ack_ok : ∀ x ∈ q.ackLog, x.r.isAck = true ∧ SentOK now q x
  resp_ok : ∀ x ∈ q.respLog, x.r.isAck = false ∧ SentOK now q x
  closed_iff : q.closed = true ↔ q.closedAt.isSome
  count : q.closeCount = if q.closed then 1 else 0
  timed : q.timedOut = true → q.closed = true
  ack_nil : q.ackWanted = false → q.ackLog = []

theorem QInv.mono {now : Nat} {q : QR} (h : QInv now q) : QInv (now + 1) q :=
  { h with
    ack_ok := fun x hx => ⟨(h.ack_ok x hx).1, (h.ack_ok x hx).2.mono⟩
    resp_ok := fun x hx => ⟨(h.resp_ok x hx).1, (h.resp_ok x hx).2.mono⟩ }

theorem QInv.frame {now : Nat} {q : QR} (h : QInv now q) (d : Bool) (a b : Nat) :
    QInv now { q with pastDeadline := d, ackBuf := a, respBuf := b } := { h with }

theorem QInv.fresh (now lt id : Nat) (ack : Bool) (cap : Nat) :
    QInv now { lt := lt, id := id, ackWanted := ack, cap := cap } where
  acks_eq := rfl
  resps_eq := rfl
  acks_nodup := List.nodup_nil
  resps_nodup := List.nodup_nil
  ack_ok := fun _ h => nomatch h
  resp_ok := fun _ h => nomatch h
  closed_iff := ⟨(fun h => nomatch h), (fun h => nomatch h)⟩
  count := rfl
  timed := fun h => nomatch h
  ack_nil := fun _ => rfl

theorem close_of_closed {q : QR} (now : Nat) (h : q.closed = true) : close now q = q := if_pos h

theorem close_of_open {q : QR} (now : Nat) (h : ¬ q.closed = true) :
    close now q = { q with closed := true, closeCount := q.closeCount + 1, closedAt := some now } := if_neg h

theorem send_of_closed {q : QR} (now : Nat) (r : Reply) (h : q.closed = true) : send now r q = q := if_pos h

theorem close_lt (now : Nat) (q : QR) : (close now q).lt = q.lt :=
  ite_prop (fun c : QR => c.lt = q.lt) (fun _ => rfl) fun _ => rfl

theorem close_closed (now : Nat) (q : QR) : (close now q).closed = true :=
  ite_prop (fun c : QR => c.closed = true) id fun _ => rfl

theorem QInv.close {now : Nat} {q : QR} (h : QInv now q) : QInv (now + 1) { close now q with timedOut := true } := by
  by_cases hc : q.closed = true
  · rw [close_of_closed now hc]; exact { h.mono with timed := fun _ => hc }
  · rw [close_of_open now hc]
    -- closed now: everything on the streams was sent before `now`
    have ok : ∀ x, SentOK now q x → SentOK (now + 1) { q with closedAt := some now } x :=
      fun x ⟨a, b, c, _⟩ => ⟨a, b, Nat.lt_succ_of_lt c, fun _ e => Option.some.inj e ▸ c⟩
    exact { h with
      ack_ok := fun x hx => ⟨(h.ack_ok x hx).1, ok x (h.ack_ok x hx).2⟩
      resp_ok := fun x hx => ⟨(h.resp_ok x hx).1, ok x (h.resp_ok x hx).2⟩
      closed_iff := ⟨fun _ => rfl, fun _ => rfl⟩
      count := by show q.closeCount + 1 = 1; rw [h.count, if_neg hc]
      timed := fun _ => rfl }

theorem send_ind (now : Nat) (r : Reply) (q : QR) {C : QR → Prop} (same : C q)
    (ack : q.closed = false → r.isAck = true → q.ackWanted = true → q.ackBuf < q.cap →
      C { q with ackBuf := q.ackBuf + 1, acks := q.acks ++ [r.sender], ackLog := q.ackLog ++ [⟨r, now⟩] })
    (resp : q.closed = false → r.isAck = false → q.respBuf < q.cap →
      C { q with respBuf := q.respBuf + 1, resps := q.resps ++ [r.sender], respLog := q.respLog ++ [⟨r, now⟩] }) :
    C (send now r q) := by
  unfold QueryRoute.send
  refine ite_prop C (fun _ => same) fun hc => ite_prop C (fun ha => ?_) fun ha => ?_
  · refine ite_prop C (fun hs => ?_) fun _ => same
    obtain ⟨hw, hroom⟩ := Bool.and_eq_true_iff.mp hs
    exact ack (Bool.eq_false_iff.mpr hc) ha hw (of_decide_eq_true hroom)
  · exact ite_prop C (resp (Bool.eq_false_iff.mpr hc) (Bool.eq_false_iff.mpr ha)) fun _ => same

theorem QInv.send {now : Nat} {q : QR} {r : Reply} (h : QInv now q)
    (hlt : r.lt = q.lt) (hid : r.id = q.id)
    (hnew : r.sender ∉ (if r.isAck then q.acks else q.resps)) : QInv (now + 1) (send now r q) := by
  have hm := h.mono
  have ok : q.closed = false → SentOK (now + 1) q ⟨r, now⟩ := fun hc =>
    ⟨hlt, hid, Nat.lt_succ_self _, fun c e => by
      have := h.closed_iff.mpr (e ▸ rfl)
      rw [hc] at this; cases this⟩
  refine send_ind now r q hm (fun hc ha hw _ => ?_) fun hc ha _ => ?_
  · rw [if_pos ha] at hnew
    exact { hm with
      acks_eq := by
        show q.acks ++ [r.sender] = (q.ackLog ++ [(⟨r, now⟩ : Sent)]).map _
        rw [List.map_append, ← h.acks_eq]; rfl
      acks_nodup := nodup_concat h.acks_nodup hnew
      ack_ok := List.forall_mem_append.mpr ⟨hm.ack_ok, List.forall_mem_singleton.mpr ⟨ha, ok hc⟩⟩
      ack_nil := fun hw' => nomatch hw.symm.trans hw' }
  · rw [ha] at hnew
    exact { hm with
      resps_eq := by
        show q.resps ++ [r.sender] = (q.respLog ++ [(⟨r, now⟩ : Sent)]).map _
        rw [List.map_append, ← h.resps_eq]; rfl
      resps_nodup := nodup_concat h.resps_nodup hnew
      resp_ok := List.forall_mem_append.mpr ⟨hm.resp_ok, List.forall_mem_singleton.mpr ⟨ha, ok hc⟩⟩ }

theorem send_lt (now : Nat) (r : Reply) (q : QR) : (send now r q).lt = q.lt :=
  send_ind now r q (C := (·.lt = q.lt)) rfl (fun _ _ _ _ => rfl) fun _ _ _ => rfl
theorem send_id (now : Nat) (r : Reply) (q : QR) : (send now r q).id = q.id :=
  send_ind now r q (C := (·.id = q.id)) rfl (fun _ _ _ _ => rfl) fun _ _ _ => rfl
theorem send_timedOut (now : Nat) (r : Reply) (q : QR) : (send now r q).timedOut = q.timedOut :=
  send_ind now r q (C := (·.timedOut = q.timedOut)) rfl (fun _ _ _ _ => rfl) fun _ _ _ => rfl

/-- What the stages an in-flight reply has passed have established about the object it was routed to. -/
def InflOK (f : Inflight) (q : QR) : Prop :=
  q.lt = f.r.lt ∧ (3 ≤ f.stage → q.id = f.r.id) ∧
  (5 ≤ f.stage → f.r.sender ∉ (if f.r.isAck then q.acks else q.resps))

/-- The invariant of every schedule: each object has `QInv`; a table entry points at an object with that Lamport time; the
in-flight reply points at an object about which its passed stages have established `InflOK`.  Every action is a tick
(`Inv.tick`), an added object (`Inv.add`) or one modified object (`Inv.modAt`). -/
structure Inv (s : Sys) : Prop where
  objs : ∀ q ∈ s.objs, QInv s.now q
  map : ∀ lt i, alookup s.map lt = some i → Holds s.objs i (·.lt = lt)
  infl : ∀ f, s.inflight = some f → Holds s.objs f.ref (InflOK f)

theorem inv_init : Inv {} where
  objs := fun _ h => nomatch h
  map := fun _ _ h => nomatch h
  infl := fun _ h => nomatch h

theorem Inv.tick {s : Sys} (h : Inv s) (fl : Option Inflight) (clock : Nat)
    (hfl : ∀ f, fl = some f → Holds s.objs f.ref (InflOK f)) :
    Inv { s with inflight := fl, now := s.now + 1, clock := clock } where
  objs := fun q hq => (h.objs q hq).mono
  map := h.map
  infl := hfl

theorem Inv.add {s : Sys} (h : Inv s) (lt id : Nat) (ack : Bool) (cap clock : Nat) :
    Inv { s with objs := s.objs ++ [{ lt := lt, id := id, ackWanted := ack, cap := cap }],
                 map := ainsert s.map lt s.objs.length, clock := clock, now := s.now + 1 } where
  objs := List.forall_mem_append.mpr
    ⟨fun q hq => (h.objs q hq).mono, List.forall_mem_singleton.mpr (QInv.fresh _ lt id ack cap)⟩
  map := fun l j hl => by
    rw [alookup_ainsert] at hl
    split at hl
    next hk => exact ⟨_, Option.some.inj hl ▸ List.getElem?_concat_length, (eq_of_beq hk).symm⟩
    · exact (h.map l j hl).append _
  infl := fun f hf => (h.infl f hf).append _

theorem Inv.modAt {s : Sys} (h : Inv s) (f : QR → QR) (i : Nat) {m : List (Nat × Nat)} {fl : Option Inflight}
    (hq : ∀ q, s.objs[i]? = some q → QInv (s.now + 1) (f q)) (hlt : ∀ q, (f q).lt = q.lt)
    (hm : ∀ lt j, alookup m lt = some j → alookup s.map lt = some j)
    (hfl : ∀ x, fl = some x → s.inflight = some x ∧ ∀ q, InflOK x q → InflOK x (f q)) :
    Inv { s with objs := modAt f s.objs i, map := m, inflight := fl, now := s.now + 1 } where
  objs := fun q hq' => by
    rcases mem_modAt hq' with hmem | ⟨q0, hq0, rfl⟩
    · exact (h.objs q hmem).mono
    · exact hq q0 hq0
  map := fun lt j hl => (h.map lt j (hm lt j hl)).modAt f i fun q e => (hlt q).trans e
  infl := fun x hx => (h.infl x (hfl x hx).1).modAt f i (hfl x hx).2

theorem good_iff (sh : Shapes) : sh.good = true ↔ sh.sendAck.atomic = true ∧ sh.sendResponse.atomic = true ∧
    sh.close.good = true ∧ sh.finishedLocked = true ∧ sh.timer.good = true ∧ sh.handle.asModelled = true := by
  simp only [Shapes.good, Bool.and_eq_true, and_assoc]

/- `act` reads three bits of `good`: the two `atomic` flags and `timer.unconditional`.  The other conjuncts say that the
remaining critical sections and the stage order of the source are the ones the actions transcribe; no proof uses them. -/
theorem sendAtomic_of_good {sh : Shapes} (hg : sh.good = true) (b : Bool) : sh.sendAtomic b = true := by
  obtain ⟨hack, hresp, _⟩ := (good_iff sh).mp hg
  cases b
  · exact hresp
  · exact hack

theorem timerUncond_of_good {sh : Shapes} (hg : sh.good = true) : sh.timer.unconditional = true := by
  obtain ⟨_, _, _, _, htimer, _⟩ := (good_iff sh).mp hg
  simp only [TimerShape.good, Bool.and_eq_true] at htimer
  exact htimer.2

theorem act_timeout {sh : Shapes} (hg : sh.good = true) (s : Sys) (i : Nat) :
    act sh s (.timeout i) = match s.objs[i]? with
      | none => { s with now := s.now + 1 }
      | some q => { s with map := aerase s.map q.lt,
                           objs := modAt (fun q => { close s.now q with timedOut := true }) s.objs i, now := s.now + 1 } := by
  simp only [act]
  cases s.objs[i]? with
  | none => rfl
  | some q => simp only [timerUncond_of_good hg, Bool.true_or, if_true]

theorem act_arrive (sh : Shapes) (s : Sys) (r : Reply) :
    ∃ fl, act sh s (.arrive r) = { s with inflight := fl, now := s.now + 1 } ∧
      (fl = s.inflight ∨ ∃ i, alookup s.map r.lt = some i ∧ fl = some ⟨r, 2, i⟩) := by
  simp only [act]
  cases hf : s.inflight with
  | some f => exact ⟨s.inflight, rfl, .inl hf⟩
  | none =>
    cases alookup s.map r.lt with
    | none => exact ⟨s.inflight, rfl, .inl hf⟩
    | some i => exact ⟨_, rfl, .inr ⟨i, rfl, rfl⟩⟩

/-- The in-flight record may become `fl`: nothing, or the reply that was in flight, routed to the same object, at a
stage whose conditions hold if those of its present stage do. -/
def Advances (s : Sys) (fl : Option Inflight) : Prop :=
  ∀ x, fl = some x → ∃ f, s.inflight = some f ∧ x.ref = f.ref ∧
    ∀ q, s.objs[f.ref]? = some q → InflOK f q → InflOK x q

theorem replyStep_ind {sh : Shapes} (hg : sh.good = true) (s : Sys) {C : Sys → Prop}
    (move : ∀ fl, Advances s fl → C { s with inflight := fl })
    (sent : ∀ f, s.inflight = some f → 5 ≤ f.stage →
      C { s with objs := modAt (send s.now f.r) s.objs f.ref, inflight := none }) :
    C (replyStep sh s) := by
  unfold replyStep
  cases hf : s.inflight with
  | none => exact move s.inflight fun x hx => nomatch hf.symm.trans hx
  | some f =>
    simp only
    have drop : Advances s none := fun _ hx => nomatch hx
    have next : ∀ k, (∀ q, s.objs[f.ref]? = some q → InflOK f q → InflOK { f with stage := k } q) →
        Advances s (some { f with stage := k }) :=
      fun k hk x hx => ⟨f, hf, Option.some.inj hx ▸ rfl, Option.some.inj hx ▸ hk⟩
    cases hq : s.objs[f.ref]? with
    | none => exact move _ drop
    | some q =>
      -- the four leaves: stage 2 (the id check), 3 (`Finished`), 4 (the duplicate check), and from 5 on the send
      refine ite_prop C (fun _ => ?_) fun h2 => ite_prop C (fun h3 => ?_) fun h3 => ite_prop C (fun h4 => ?_) fun h4 => ?_
      · refine ite_prop C (fun _ => move _ drop) fun hid => move _ (next 3 fun q' hq' h =>
          ⟨h.1, fun _ => ?_, fun (h5 : 5 ≤ 3) => absurd h5 (by decide)⟩)
        rw [← Option.some.inj (hq.symm.trans hq')]
        simpa using hid
      · exact ite_prop C (fun _ => move _ drop) fun _ => move _ (next 4 fun _ _ h =>
          ⟨h.1, fun _ => h.2.1 (h3 ▸ Nat.le_refl 3), fun (h5 : 5 ≤ 4) => absurd h5 (by decide)⟩)
      · refine ite_prop C (fun _ => move _ drop) fun hdup => move _ (next 5 fun q' hq' h =>
          ⟨h.1, fun _ => h.2.1 (h4 ▸ by decide), fun _ hmem => hdup ?_⟩)
        rw [← Option.some.inj (hq.symm.trans hq')] at hmem
        simpa using hmem
      · rw [if_pos (sendAtomic_of_good hg f.r.isAck)]
        exact sent f hf (by omega)

theorem inv_act (sh : Shapes) (hg : sh.good = true) (s : Sys) (a : Action) (h : Inv s) : Inv (act sh s a) := by
  have frame : ∀ (d : QR → Bool) (a b : QR → Nat) i, Inv { s with
      objs := modAt (fun q => { q with pastDeadline := d q, ackBuf := a q, respBuf := b q }) s.objs i, now := s.now + 1 } :=
    fun d a b i => h.modAt _ i (fun q hq => (h.objs q (List.mem_of_getElem? hq)).mono.frame (d q) (a q) (b q))
      (fun _ => rfl) (fun _ _ x => x) (fun _ hx => ⟨hx, fun _ hk => hk⟩)
  cases a with
  | register lt id ack cap => exact h.add lt id ack cap s.clock
  | query id ack cap => exact h.add s.clock id ack cap (s.clock + 1)
  | witness t => exact h.tick s.inflight _ h.infl
  | deadline i => exact frame (fun _ => true) (·.ackBuf) (·.respBuf) i
  | consumeAck i => exact frame (·.pastDeadline) (·.ackBuf - 1) (·.respBuf) i
  | consumeResp i => exact frame (·.pastDeadline) (·.ackBuf) (·.respBuf - 1) i
  | timeout i =>
    rw [act_timeout hg]
    split
    · exact h.tick s.inflight s.clock h.infl
    next q0 _ =>
      -- `InflOK` reads `lt`, `id`, `acks` and `resps`; closing and the timer flag touch none of them
      refine h.modAt _ i (fun q hq => (h.objs q (List.mem_of_getElem? hq)).close) (fun q => close_lt _ q) (fun l j hl => ?_)
        (fun x hx => ⟨hx, fun q hk => ite_prop (fun c : QR => InflOK x { c with timedOut := true }) (fun _ => hk) fun _ => hk⟩)
      by_cases hk : l = q0.lt
      · rw [hk, alookup_aerase_self] at hl; cases hl
      · rwa [alookup_aerase_ne hk] at hl
  | arrive r =>
    obtain ⟨fl, e, hfl⟩ := act_arrive sh s r
    rw [e]
    refine h.tick fl s.clock fun f hf => ?_
    rcases hfl with rfl | ⟨i, hi, rfl⟩
    · exact h.infl f hf
    · -- at stage 2 only the Lamport time has been looked at
      obtain ⟨q, hq, hlt⟩ := h.map r.lt i hi
      have ok : InflOK ⟨r, 2, i⟩ q := ⟨hlt, fun (h3 : 3 ≤ 2) => absurd h3 (by decide), fun (h5 : 5 ≤ 2) => absurd h5 (by decide)⟩
      exact Option.some.inj hf ▸ ⟨q, hq, ok⟩
  | replyStep =>
    refine replyStep_ind hg s (C := fun r => Inv { r with now := s.now + 1 }) (fun fl hfl => ?_) fun f hf h5 => ?_
    · refine h.tick fl s.clock fun x hx => ?_
      obtain ⟨f, hf, href, hk⟩ := hfl x hx
      obtain ⟨q, hq, hok⟩ := h.infl f hf
      exact ⟨q, href ▸ hq, hk q hq hok⟩
    · obtain ⟨q, hq, hlt, hid, hnew⟩ := h.infl f hf
      refine h.modAt _ f.ref (fun q' hq' => ?_) (fun q => send_lt _ _ q) (fun _ _ x => x) (fun _ hx => nomatch hx)
      rw [← Option.some.inj (hq.symm.trans hq')]
      exact (h.objs q (List.mem_of_getElem? hq)).send hlt.symm (hid (by omega)).symm (hnew h5)

/-! ### Queries issued through `Serf.Query` get distinct Lamport times and keep their table entry

`Serf.Query` takes `queryClock.Increment() - 1` in one atomic step (regenerated: `Gen.ClockUse.query`),
so — unlike the arbitrary `.register` action — concurrent `Query` calls never share a time. -/

/-- The invariant of schedules without raw registrations, for `C07_queries_keep_their_entry`: Lamport times are below the
clock, hence pairwise distinct, and an object whose timer has not fired owns the table entry of its time. -/
structure Inv2 (objs : List QR) (map : List (Nat × Nat)) (clock : Nat) : Prop where
  below : ∀ q ∈ objs, q.lt < clock
  nodup : (objs.map (·.lt)).Nodup
  own : ∀ i q, objs[i]? = some q → q.timedOut = false → alookup map q.lt = some i

theorem inv2_init : Inv2 [] [] 0 where
  below := fun _ h => nomatch h
  nodup := .nil
  own := fun _ _ h => nomatch h

theorem lt_ne_of_nodup {l : List QR} (hnd : (l.map (·.lt)).Nodup) {i j : Nat} {a b : QR}
    (hi : l[i]? = some a) (hj : l[j]? = some b) (hne : i ≠ j) : a.lt ≠ b.lt := by
  intro e
  have hi' : (l.map (·.lt))[i]? = some a.lt := by simp [hi]
  have hj' : (l.map (·.lt))[j]? = some b.lt := by simp [hj]
  have hil : i < (l.map (·.lt)).length := (List.getElem?_eq_some_iff.mp hi').1
  exact hne ((List.getElem?_inj hil hnd).mp (by rw [hi', hj', e]))

theorem map_lt_modAt (f : QR → QR) (hlt : ∀ q, (f q).lt = q.lt) : ∀ (l : List QR) (i : Nat),
    (modAt f l i).map (·.lt) = l.map (·.lt)
  | [], _ => rfl
  | q :: qs, 0 => by simp [modAt, hlt]
  | q :: qs, i + 1 => by simp [modAt, map_lt_modAt f hlt qs i]

theorem Inv2.modAt {objs : List QR} {map : List (Nat × Nat)} {clock : Nat} (h : Inv2 objs map clock) (f : QR → QR) (i : Nat)
    (hlt : ∀ q, (f q).lt = q.lt) (hto : ∀ q, (f q).timedOut = false → q.timedOut = false) :
    Inv2 (modAt f objs i) map clock where
  below := fun q hq => by
    rcases mem_modAt hq with hm | ⟨q0, hq0, rfl⟩
    · exact h.below q hm
    · rw [hlt]; exact h.below q0 (List.mem_of_getElem? hq0)
  nodup := by rw [map_lt_modAt f hlt]; exact h.nodup
  own := fun j q hj hto' => by
    obtain ⟨q0, hq0, rfl⟩ := modAt_some hj
    by_cases e : i = j
    · rw [if_pos e] at hto' ⊢
      rw [hlt]; exact h.own j q0 hq0 (hto q0 hto')
    · rw [if_neg e] at hto' ⊢
      exact h.own j q0 hq0 hto'

theorem getElem?_concat_some {l : List QR} {a q : QR} {j : Nat} (h : (l ++ [a])[j]? = some q) :
    l[j]? = some q ∨ (j = l.length ∧ q = a) := by
  rw [List.getElem?_append] at h
  split at h
  · exact .inl h
  · rw [List.getElem?_singleton] at h
    split at h
    · exact .inr ⟨by omega, (Option.some.inj h).symm⟩
    · cases h

theorem inv2_act (sh : Shapes) (hg : sh.good = true) (s : Sys) (a : Action) (ha : a.isRegister = false)
    (h : Inv2 s.objs s.map s.clock) : Inv2 (act sh s a).objs (act sh s a).map (act sh s a).clock := by
  cases a with
  | register lt id ack cap => cases ha
  | query id ack cap =>
    -- the new object takes the clock value, above every Lamport time so far
    have hne : ∀ q ∈ s.objs, q.lt ≠ s.clock := fun q hq => Nat.ne_of_lt (h.below q hq)
    exact {
      below := List.forall_mem_append.mpr
        ⟨fun q hq => Nat.lt_succ_of_lt (h.below q hq), List.forall_mem_singleton.mpr (Nat.lt_succ_self _)⟩
      nodup := by
        show ((s.objs ++ [_]).map QR.lt).Nodup
        rw [List.map_append]
        refine nodup_concat h.nodup fun hm => ?_
        obtain ⟨q, hq, e⟩ := List.mem_map.mp hm
        exact hne q hq e
      own := fun j q hj hto => by
        show alookup (ainsert s.map s.clock s.objs.length) q.lt = some j
        rcases getElem?_concat_some hj with hj | ⟨rfl, rfl⟩
        · rw [alookup_ainsert_ne (hne q (List.mem_of_getElem? hj))]
          exact h.own j q hj hto
        · exact alookup_ainsert_self }
  | witness t =>
    refine { h with below := fun q hq => ?_ }
    show q.lt < if s.clock ≤ t then t + 1 else s.clock
    have := h.below q hq
    split <;> omega
  | deadline i | consumeAck i | consumeResp i => exact h.modAt _ i (fun _ => rfl) (fun _ x => x)
  | timeout i =>
    rw [act_timeout hg]
    split
    · exact h
    next q0 hi =>
      have hm := h.modAt (fun q => { close s.now q with timedOut := true }) i (fun q => close_lt _ q) (fun _ hx => nomatch hx)
      refine { hm with own := fun j q hj hto => ?_ }
      show alookup (aerase s.map q0.lt) q.lt = some j
      -- the timer's own object has timed out; every other object has another Lamport time
      obtain ⟨q1, hq1, rfl⟩ := modAt_some hj
      by_cases e : i = j
      · rw [if_pos e] at hto; cases hto
      · rw [if_neg e] at hto ⊢
        rw [alookup_aerase_ne (lt_ne_of_nodup h.nodup hq1 hi (Ne.symm e))]
        exact h.own j q1 hq1 hto
  | arrive r =>
    obtain ⟨fl, e, _⟩ := act_arrive sh s r
    rw [e]; exact h
  | replyStep =>
    exact replyStep_ind hg s (C := fun r => Inv2 r.objs r.map r.clock) (fun _ _ => h) fun f _ _ =>
      h.modAt _ f.ref (fun q => send_lt _ _ q) fun q hx => send_timedOut _ _ q ▸ hx
