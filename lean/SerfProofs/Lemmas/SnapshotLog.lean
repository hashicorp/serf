/-
The snapshot file as a log: what it means that a file replays to a state (`InvCore`),
and that this is kept by one more line (`InvCore.append`: `applyLine` respects the
equality of alive maps as maps and of clocks, and keeps states well formed) and
re-established by the lines a compaction writes (`InvCore.compacted`, for every order
oracle that permutes the alive map).  A file is its bytes here: nothing knows of the bufio
buffer, the operations or the directory.
-/
import SerfProofs.Lemmas.SnapshotLines
namespace SerfProofs.Snapshot
open SerfModel SerfModel.Snapshot

def MapEq (m1 m2 : AMap) : Prop := ∀ k, alookup m1 k = alookup m2 k

theorem MapEq.refl (m : AMap) : MapEq m m := fun _ => rfl

theorem MapEq.trans {a b c : AMap} (h1 : MapEq a b) (h2 : MapEq b c) : MapEq a c := fun k => (h1 k).trans (h2 k)

theorem MapEq.ainsert {m1 m2 : AMap} (h : MapEq m1 m2) (k : Name) (v : Addr) :
    MapEq (ainsert m1 k v) (ainsert m2 k v) := by
  intro x; rw [alookup_ainsert, alookup_ainsert, h x]

theorem MapEq.aerase {m1 m2 : AMap} (h : MapEq m1 m2) (k : Name) : MapEq (aerase m1 k) (aerase m2 k) := by
  intro x; rw [alookup_aerase, alookup_aerase, h x]

def WFRec (m : RecState) : Prop :=
  (akeys m.alive).Nodup ∧ (∀ p ∈ m.alive, WFName p.1 ∧ WFAddr p.2) ∧
  m.clock < U64 ∧ m.eventClock < U64 ∧ m.queryClock < U64

theorem WFRec.empty : WFRec {} := ⟨List.nodup_nil, nofun, by decide, by decide, by decide⟩

def ClocksEq (r m : RecState) : Prop :=
  r.clock = m.clock ∧ r.eventClock = m.eventClock ∧ r.queryClock = m.queryClock

def RecEq (r m : RecState) : Prop := MapEq r.alive m.alive ∧ ClocksEq r m

/-- Replaying `file` with flag `rj` gives the state `m`; the clocks only when `judged`: a leave line that replay
honours (rejoin-after-leave off) zeroes them while the snapshotter keeps its own, so from then on they are not
compared (`Judged`, Lemmas/SnapshotWriter.lean). -/
def InvCore (rj : Bool) (judged : Prop) (m : RecState) (file : Bytes) : Prop :=
  endsNL file = true ∧ WFRec m ∧ MapEq (replay rj file).alive m.alive ∧ (judged → ClocksEq (replay rj file) m)

theorem WFRec.applyLine {m : RecState} (h : WFRec m) (rj : Bool) {ln : Line} (hln : WFLine ln) :
    WFRec (applyLine rj m ln) := by
  obtain ⟨h1, h2, h3, h4, h5⟩ := h
  cases ln with
  | alive n a =>
    exact ⟨akeys_ainsert_nodup h1, fun q hq => (mem_ainsert hq).elim (fun e => e ▸ hln) fun h => h2 q h.1, h3, h4, h5⟩
  | notAlive n => exact ⟨akeys_aerase_nodup h1, fun q hq => h2 q (mem_aerase hq), h3, h4, h5⟩
  | clock t => exact ⟨h1, h2, hln, h4, h5⟩
  | eventClock t => exact ⟨h1, h2, h3, hln, h5⟩
  | queryClock t => exact ⟨h1, h2, h3, h4, hln⟩
  | leave =>
    cases rj
    · exact WFRec.empty
    · exact ⟨h1, h2, h3, h4, h5⟩

theorem applyLine_congr (rj : Bool) {j : Prop} {r m : RecState} (ln : Line)
    (hA : MapEq r.alive m.alive) (hC : j → ClocksEq r m) :
    MapEq (applyLine rj r ln).alive (applyLine rj m ln).alive ∧ (j → ClocksEq (applyLine rj r ln) (applyLine rj m ln)) := by
  cases ln with
  | alive n a => exact ⟨hA.ainsert n a, hC⟩
  | notAlive n => exact ⟨hA.aerase n, hC⟩
  | clock t => exact ⟨hA, fun hj => ⟨rfl, (hC hj).2⟩⟩
  | eventClock t => exact ⟨hA, fun hj => ⟨(hC hj).1, rfl, (hC hj).2.2⟩⟩
  | queryClock t => exact ⟨hA, fun hj => ⟨(hC hj).1, (hC hj).2.1, rfl⟩⟩
  | leave =>
    cases rj
    · exact ⟨MapEq.refl _, fun _ => ⟨rfl, rfl, rfl⟩⟩
    · exact ⟨hA, hC⟩

theorem InvCore.append {rj : Bool} {j : Prop} {m : RecState} {file : Bytes} (h : InvCore rj j m file)
    {ln : Line} (hln : WFLine ln) : InvCore rj j (applyLine rj m ln) (file ++ printLine ln) := by
  obtain ⟨hnl, hwf, hA, hC⟩ := h
  have := applyLine_congr rj ln hA hC
  rw [← replay_append_line rj file ln hnl hln] at this
  exact ⟨endsNL_append hnl (endsNL_printLine ln), hwf.applyLine rj hln, this⟩

theorem InvCore.of_eqv {rj : Bool} {j j' : Prop} {m m' : RecState} {file : Bytes} (h : InvCore rj j m file)
    (hwf : WFRec m') (hA : MapEq m.alive m'.alive) (hC : j' → j ∧ ClocksEq m m') : InvCore rj j' m' file := by
  obtain ⟨hnl, _, hA0, hC0⟩ := h
  refine ⟨hnl, hwf, hA0.trans hA, fun hj => ?_⟩
  obtain ⟨hj0, d1, d2, d3⟩ := hC hj
  obtain ⟨c1, c2, c3⟩ := hC0 hj0
  exact ⟨c1.trans d1, c2.trans d2, c3.trans d3⟩

/-- A leave line: replay forgets everything unless rejoin-after-leave is on; the snapshotter empties its alive map
(unless it is on) but keeps its clocks, which from then on are judged only with rejoin-after-leave. -/
theorem InvCore.leave {rj : Bool} {j j' : Prop} {m : RecState} {file : Bytes} (h : InvCore rj j m file)
    (hj : rj = true → j) (hj' : j' → rj = true) :
    InvCore rj j' { m with alive := if rj then m.alive else [] } (file ++ printLine .leave) := by
  have hwf : WFRec m := h.2.1
  cases rj
  · obtain ⟨_, _, w3, w4, w5⟩ := hwf
    exact (h.append (ln := .leave) trivial).of_eqv ⟨List.nodup_nil, fun _ hq => absurd hq List.not_mem_nil, w3, w4, w5⟩
      (MapEq.refl _) (fun hh => absurd (hj' hh) Bool.false_ne_true)
  · exact (h.append (ln := .leave) trivial).of_eqv hwf (MapEq.refl _) (fun _ => ⟨hj rfl, rfl, rfl, rfl⟩)

theorem foldl_alive_lines (rj : Bool) (m : AMap) : ∀ st : RecState,
    (m.map fun p => Line.alive p.1 p.2).foldl (applyLine rj) st =
      { st with alive := m.foldl (fun a p => ainsert a p.1 p.2) st.alive } := by
  induction m with
  | nil => intro st; rfl
  | cons p t ih => intro st; simp only [List.map_cons, List.foldl_cons, ih, applyLine]

theorem replay_fold_from (rj : Bool) (ls : List Line) (hls : ∀ l ∈ ls, WFLine l) :
    ∀ x : Bytes, endsNL x = true →
      replay rj (x ++ ls.flatMap printLine) = ls.foldl (applyLine rj) (replay rj x) := by
  induction ls with
  | nil => intro x _; simp
  | cons l ls ih =>
    intro x hx
    have hl := hls l (List.mem_cons_self)
    have hx' : endsNL (x ++ printLine l) = true := endsNL_append hx (endsNL_printLine l)
    simp only [List.flatMap_cons, List.foldl_cons]
    rw [← List.append_assoc, ih (fun m hm => hls m (List.mem_cons_of_mem _ hm)) _ hx', replay_append_line rj x l hx hl]

theorem endsNL_flatMap_printLine (ls : List Line) : endsNL (ls.flatMap printLine) = true := by
  induction ls with
  | nil => rfl
  | cons l ls ih => simp only [List.flatMap_cons]; exact endsNL_append (endsNL_printLine l) ih

def PermOrder (ord : Order) : Prop := ∀ i m, (ord i m).Perm m

def compactLineList (ord : Order) (s : Snap) : List Line :=
  (ord s.ncompact s.alive).map (fun p => Line.alive p.1 p.2) ++
    [.clock s.lastClock, .eventClock s.lastEventClock, .queryClock s.lastQueryClock]

theorem compactLines_flatten (ord : Order) (s : Snap) :
    (compactLines ord s).flatten = (compactLineList ord s).flatMap printLine := by
  simp [compactLines, compactLineList, List.flatMap, List.map_append, List.map_map, Function.comp_def]

theorem InvCore.compacted (ord : Order) (hord : PermOrder ord) (s : Snap) (hwf : WFRec s.mem) (j : Prop) :
    InvCore s.rejoin j s.mem (compactLines ord s).flatten := by
  have hperm := hord s.ncompact s.alive
  have ⟨hnd0, hal, hc, he, hq⟩ := hwf
  have hwfl : ∀ l ∈ compactLineList ord s, WFLine l := by
    intro l hl
    simp only [compactLineList, List.mem_append, List.mem_map, List.mem_cons, List.not_mem_nil, or_false] at hl
    rcases hl with ⟨p, hp, rfl⟩ | rfl | rfl | rfl
    · exact hal p (hperm.mem_iff.mp hp)
    · exact hc
    · exact he
    · exact hq
  have hrep : replay s.rejoin (compactLines ord s).flatten =
      { alive := (ord s.ncompact s.alive).foldl (fun a p => ainsert a p.1 p.2) [],
        clock := s.lastClock, eventClock := s.lastEventClock, queryClock := s.lastQueryClock } := by
    have := replay_fold_from s.rejoin (compactLineList ord s) hwfl [] rfl
    simp only [List.nil_append] at this
    rw [compactLines_flatten, this]
    simp only [compactLineList, List.foldl_append, foldl_alive_lines, List.foldl_cons, List.foldl_nil, applyLine]
    rfl
  have hnd : (akeys (ord s.ncompact s.alive)).Nodup := (akeys_perm hperm).nodup_iff.mpr hnd0
  refine ⟨?_, hwf, ?_, ?_⟩
  · rw [compactLines_flatten]; exact endsNL_flatMap_printLine _
  · intro k
    rw [hrep]
    simp only [alookup_foldl_ainsert _ _ hnd, alookup_nil, Option.or_none]
    exact alookup_perm hperm hnd0 k
  · intro _; rw [hrep]; exact ⟨rfl, rfl, rfl⟩

end SerfProofs.Snapshot
