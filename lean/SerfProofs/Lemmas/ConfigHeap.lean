/-
The heap view of the configuration merge (`mergeH`), for an arbitrary rule table without in-place rules.  Nothing
that was in the heap before the call is written (`Keeps`: statements only allocate, or write into what they have
allocated themselves), and each field of the result denotes `mergeVal` of what the inputs' fields denote
(`mergeH_field`), hence `deref ∘ mergeH = merge ∘ deref`.
-/
import SerfProofs.Lemmas.Config
namespace SerfProofs.Config
open SerfModel SerfModel.Config

theorem rget_map (g : FieldSpec → RVal) {t : List FieldSpec} (hnd : (names t).Nodup) {fs : FieldSpec} (hfs : fs ∈ t) :
    rget (t.map fun x => (x.name, g x)) fs.name = g fs := by
  show (alookup _ _).getD _ = _
  rw [alookup_map_of_mem FieldSpec.name g t hnd hfs]; rfl

theorem get_deref (t : List FieldSpec) (hnd : (names t).Nodup) (h : Heap) (c : RConfig) (fs : FieldSpec) (hfs : fs ∈ t) :
    get (deref t h c) fs.name = derefVal h fs.kind (rget c fs.name) :=
  get_map (fun x => derefVal h x.kind (rget c x.name)) hnd hfs

/-- every object of `h` is still there, unchanged, in `h'` -/
def Keeps (h h' : Heap) : Prop := h.length ≤ h'.length ∧ ∀ i, i < h.length → h'[i]? = h[i]?

theorem Keeps.refl (h : Heap) : Keeps h h := ⟨Nat.le_refl _, fun _ _ => rfl⟩

theorem Keeps.trans {h1 h2 h3 : Heap} (a : Keeps h1 h2) (b : Keeps h2 h3) : Keeps h1 h3 :=
  ⟨Nat.le_trans a.1 b.1, fun i hi => by rw [b.2 i (Nat.lt_of_lt_of_le hi a.1), a.2 i hi]⟩

theorem Keeps.get {h h' : Heap} (hk : Keeps h h') {i : Nat} {o : Obj} (ho : h[i]? = some o) : h'[i]? = some o := by
  rw [hk.2 i (List.getElem?_eq_some_iff.mp ho).1, ho]

theorem keeps_alloc (h : Heap) (o : Obj) : Keeps h (h ++ [o]) :=
  ⟨by simp, fun i hi => List.getElem?_append_left hi⟩

theorem keeps_write_fresh {h h' : Heap} (hk : Keeps h h') (n : Nat) (hn : h.length ≤ n) (o : Obj) :
    Keeps h (hwrite h' n o) := by
  refine ⟨by simpa [hwrite] using hk.1, fun i hi => ?_⟩
  rw [hwrite, List.getElem?_set_ne (by omega)]
  exact hk.2 i hi

/-- a field value of the right shape for its kind; its address, if it has one, holds an object of the right sort in
`h` (for a slice: a backing array at least as long as the slice) -/
def RefOK (h : Heap) : Kind → RVal → Prop
  | .tags, .ref none => True
  | .tags, .ref (some i) => ∃ m, h[i]? = some (.tags m)
  | .list, .slice none => True
  | .list, .slice (some (i, n)) => ∃ cells, h[i]? = some (.strs cells) ∧ n ≤ cells.length
  | .tags, _ => False
  | .list, _ => False
  | _, .scalar _ => True
  | _, _ => False

theorem cellsOf_append_self (h : Heap) (l : List String) : cellsOf (h ++ [Obj.strs l]) h.length = l := by
  simp [cellsOf]

theorem cellsOf_hwrite_self (h : Heap) (i : Nat) (hi : i < h.length) (l : List String) :
    cellsOf (hwrite h i (.strs l)) i = l := by
  simp [cellsOf, hwrite, hi]

/-- `h0` is the heap before the merge: a slice whose array was allocated after it may be grown in place without
touching `h0`'s objects, and what `append` returns is again such a slice. -/
theorem appendH_spec {h0 h : Heap} (hk : Keeps h0 h) (s : Option (Nat × Nat)) (xs : List String)
    (hs : RefOK h .list (.slice s)) (hf : ∀ i n, s = some (i, n) → h0.length ≤ i) :
    Keeps h0 (appendH h s xs).1 ∧ (∀ i n, (appendH h s xs).2 = some (i, n) → h0.length ≤ i) ∧
    RefOK (appendH h s xs).1 .list (.slice (appendH h s xs).2) ∧
    readSlice (appendH h s xs).1 (appendH h s xs).2 = readSlice h s ++ xs := by
  have hlen := hk.1
  -- the four outcomes of `append`, each with its result `r` written out once
  suffices ∀ r, appendH h s xs = r → Keeps h0 r.1 ∧ (∀ i n, r.2 = some (i, n) → h0.length ≤ i) ∧
      RefOK r.1 .list (.slice r.2) ∧ readSlice r.1 r.2 = readSlice h s ++ xs from this _ rfl
  intro r hr
  unfold appendH at hr
  cases s with
  | none =>
    simp only at hr
    split at hr <;> subst hr
    · rename_i he
      have : xs = [] := by simpa using he
      subst this
      exact ⟨hk, fun _ _ e => (by cases e), trivial, rfl⟩
    · refine ⟨hk.trans (keeps_alloc h _), fun i n e => ?_, ⟨xs, by simp, Nat.le_refl _⟩, ?_⟩
      · cases e; exact hlen
      · simp [readSlice, cellsOf_append_self]
  | some p =>
    obtain ⟨i, n⟩ := p
    obtain ⟨cells, hc, hn⟩ := hs
    have hi : i < h.length := (List.getElem?_eq_some_iff.mp hc).1
    have hcells : cellsOf h i = cells := by simp [cellsOf, hc]
    have hl : (cells.take n ++ xs).length = n + xs.length := by simp [List.length_take, Nat.min_eq_left hn]
    simp only [hcells] at hr
    split at hr <;> subst hr
    · refine ⟨keeps_write_fresh hk i (hf i n rfl) _, fun j m e => ?_, ⟨cells.take n ++ xs ++ cells.drop (n + xs.length), by simp [hwrite, hi], ?_⟩, ?_⟩
      · cases e; exact hf i n rfl
      · simp only [List.length_append, hl, List.length_drop]; omega
      · simp only [readSlice, cellsOf_hwrite_self h i hi, hcells, List.take_left' hl]
    · refine ⟨hk.trans (keeps_alloc h _), fun j m e => ?_, ⟨cells.take n ++ xs, by simp, Nat.le_of_eq hl.symm⟩, ?_⟩
      · cases e; exact hlen
      · simp only [readSlice, cellsOf_append_self, hcells]
        exact List.take_of_length_le (Nat.le_of_eq hl)

/-- the three statements of rule `concat`, for any capacity `c` and any `xs`, `ys` -/
theorem makeH_append_append (h : Heap) (c : Nat) (xs ys : List String) :
    let r1 := appendH (makeH h c).1 (makeH h c).2 xs
    let r2 := appendH r1.1 r1.2 ys
    Keeps h r1.1 ∧ Keeps h r2.1 ∧ RefOK r2.1 .list (.slice r2.2) ∧ readSlice r2.1 r2.2 = xs ++ ys := by
  have w0 : RefOK (makeH h c).1 .list (.slice (makeH h c).2) := ⟨List.replicate c "", by simp [makeH], Nat.zero_le _⟩
  have f0 : ∀ i n, (makeH h c).2 = some (i, n) → h.length ≤ i := fun i n e => by cases e; exact Nat.le_refl _
  have r0 : readSlice (makeH h c).1 (makeH h c).2 = [] := by simp [makeH, readSlice]
  have k0 : Keeps h (makeH h c).1 := keeps_alloc h _
  obtain ⟨k1, f1, w1, r1⟩ := appendH_spec k0 (makeH h c).2 xs w0 f0
  obtain ⟨k2, _, w2, r2⟩ := appendH_spec k1 _ ys w1 f1
  exact ⟨k1, k2, w2, by rw [r2, r1, r0, List.nil_append]⟩

theorem mergeFieldH_keeps (h : Heap) (r : Rule) (a b : RVal) (hr : writesInput r = false) :
    Keeps h (mergeFieldH h r a b).1 := by
  unfold mergeFieldH
  split
  · split                                      -- tagsFresh
    · exact Keeps.refl h                       --   both nil: nothing allocated
    · exact keeps_write_fresh (keeps_write_fresh (keeps_alloc h _) _ (Nat.le_refl _) _) _ (Nat.le_refl _) _
  · cases hr                                   -- tagsInPlace
  · cases hr                                   -- appendInPlace
  · exact (makeH_append_append h _ _ _).2.1    -- concat
  · exact Keeps.refl h                         -- always
  · exact Keeps.refl h                         -- a rule on scalars
  · exact Keeps.refl h                         -- no statement for these values

theorem derefVal_scalar (h : Heap) (k : Kind) (v : FieldVal) : derefVal h k (.scalar v) = v := by
  cases k <;> rfl

theorem RefOK_scalar (h : Heap) {k : Kind} (h1 : k ≠ .tags) (h2 : k ≠ .list) (x : FieldVal) : RefOK h k (.scalar x) := by
  cases k <;> first | trivial | contradiction

theorem RefOK_cases {h : Heap} {k : Kind} {v : RVal} (hr : RefOK h k v) :
    (k ≠ .tags ∧ k ≠ .list ∧ ∃ x, v = .scalar x) ∨ (k = .tags ∧ ∃ r, v = .ref r) ∨ (k = .list ∧ ∃ s, v = .slice s) := by
  cases k <;> cases v <;> first | exact hr.elim | simp

theorem readTags_keeps {h h' : Heap} (hk : Keeps h h') (r : Option Nat) (hr : RefOK h .tags (.ref r)) :
    readTags h' r = readTags h r := by
  cases r with
  | none => rfl
  | some i =>
    obtain ⟨m, hm⟩ := hr
    simp only [readTags, hk.get hm, hm]

theorem readSlice_keeps {h h' : Heap} (hk : Keeps h h') (s : Option (Nat × Nat)) (hr : RefOK h .list (.slice s)) :
    readSlice h' s = readSlice h s := by
  cases s with
  | none => rfl
  | some p =>
    obtain ⟨m, hm, _⟩ := hr
    simp only [readSlice, cellsOf, hk.get hm, hm]

theorem RefOK_keeps {h h' : Heap} (hk : Keeps h h') {k : Kind} {v : RVal} (hr : RefOK h k v) : RefOK h' k v := by
  rcases RefOK_cases hr with ⟨h1, h2, x, rfl⟩ | ⟨rfl, r, rfl⟩ | ⟨rfl, s, rfl⟩
  · exact RefOK_scalar h' h1 h2 x
  · cases r with
    | none => trivial
    | some i =>
      obtain ⟨m, hm⟩ := hr
      exact ⟨m, hk.get hm⟩
  · cases s with
    | none => trivial
    | some p =>
      obtain ⟨c, hm, hn⟩ := hr
      exact ⟨c, hk.get hm, hn⟩

theorem derefVal_keeps {h h' : Heap} (hk : Keeps h h') {k : Kind} {v : RVal} (hr : RefOK h k v) :
    derefVal h' k v = derefVal h k v := by
  rcases RefOK_cases hr with ⟨_, _, x, rfl⟩ | ⟨rfl, r, rfl⟩ | ⟨rfl, s, rfl⟩
  · rw [derefVal_scalar, derefVal_scalar]
  · cases r with
    | none => rfl
    | some i => simp only [derefVal, readTags_keeps hk (some i) hr]
  · simp only [derefVal, readSlice_keeps hk s hr]

theorem mergeFieldH_scalar (h : Heap) (r : Rule) (va vb : FieldVal) :
    mergeFieldH h r (.scalar va) (.scalar vb) = (h, .scalar (mergeVal r va vb)) := by
  cases r <;> first | rfl | simp [mergeFieldH, mergeVal]

theorem readTags_append_self (h : Heap) (m : Tags) : readTags (h ++ [Obj.tags m]) (some h.length) = m := by
  simp [readTags]

theorem readTags_hwrite_self (g : Heap) (n : Nat) (hn : n < g.length) (m : Tags) :
    readTags (hwrite g n (.tags m)) (some n) = m := by
  simp [readTags, hwrite, hn]

theorem derefVal_ref (h : Heap) (r : Option Nat) :
    derefVal h .tags (.ref r) = .tags (r.map fun _ => readTags h r) := by
  cases r <;> rfl

theorem mergeTags_of_ne (x y : Option Tags) (h : (x.isNone && y.isNone) = false) :
    mergeTags x y = some (copyInto (copyInto [] (x.getD [])) (y.getD [])) := by
  cases x <;> cases y <;> first | rfl | cases h

/-- `maps.Copy` into the map allocated last replaces that object -/
theorem copy_fresh (h : Heap) {m : Tags} {r : Option Nat} (hr : RefOK h .tags (.ref r)) :
    hwrite (h ++ [.tags m]) h.length
        (.tags (copyInto (readTags (h ++ [.tags m]) (some h.length)) (readTags (h ++ [.tags m]) r))) =
      h ++ [.tags (copyInto m (readTags h r))] := by
  rw [readTags_append_self, readTags_keeps (keeps_alloc h _) r hr]
  simp [hwrite]

theorem mergeFieldH_tagsFresh (h : Heap) (ra rb : Option Nat)
    (ha : RefOK h .tags (.ref ra)) (hb : RefOK h .tags (.ref rb)) :
    derefVal (mergeFieldH h .tagsFresh (.ref ra) (.ref rb)).1 .tags (mergeFieldH h .tagsFresh (.ref ra) (.ref rb)).2
      = mergeVal .tagsFresh (derefVal h .tags (.ref ra)) (derefVal h .tags (.ref rb)) ∧
    RefOK (mergeFieldH h .tagsFresh (.ref ra) (.ref rb)).1 .tags (mergeFieldH h .tagsFresh (.ref ra) (.ref rb)).2 := by
  cases hnn : ra.isNone && rb.isNone with
  | true =>
    rw [Bool.and_eq_true, Option.isNone_iff_eq_none, Option.isNone_iff_eq_none] at hnn
    obtain ⟨rfl, rfl⟩ := hnn
    exact ⟨rfl, trivial⟩
  | false =>
    have hres : mergeFieldH h .tagsFresh (.ref ra) (.ref rb) =
        (h ++ [.tags (copyInto (copyInto [] (readTags h ra)) (readTags h rb))], .ref (some h.length)) := by
      simp only [mergeFieldH, hnn, Bool.false_eq_true, if_false, copy_fresh h ha, copy_fresh h hb]
    have hx : ∀ r : Option Nat, (r.map fun _ => readTags h r).getD [] = readTags h r := fun r => by cases r <;> rfl
    rw [hres]
    refine ⟨?_, _, List.getElem?_concat_length⟩
    rw [derefVal_ref, derefVal_ref, derefVal_ref, mergeVal, mergeTags_of_ne _ _ (by simpa using hnn), hx, hx,
      Option.map_some, readTags_append_self]

theorem mergeFieldH_concat (h : Heap) (sa sb : Option (Nat × Nat))
    (ha : RefOK h .list (.slice sa)) (hb : RefOK h .list (.slice sb)) :
    derefVal (mergeFieldH h .concat (.slice sa) (.slice sb)).1 .list (mergeFieldH h .concat (.slice sa) (.slice sb)).2
      = mergeVal .concat (derefVal h .list (.slice sa)) (derefVal h .list (.slice sb)) ∧
    RefOK (mergeFieldH h .concat (.slice sa) (.slice sb)).1 .list (mergeFieldH h .concat (.slice sa) (.slice sb)).2 := by
  let c := (readSlice h sa).length + (readSlice h sb).length
  let xs := readSlice (makeH h c).1 sa
  let ys := readSlice (appendH (makeH h c).1 (makeH h c).2 xs).1 sb
  obtain ⟨k1, _, w2, r2⟩ := makeH_append_append h c xs ys
  have ex : xs = readSlice h sa := readSlice_keeps (keeps_alloc h _) sa ha
  have ey : ys = readSlice h sb := readSlice_keeps k1 sb hb
  exact ⟨congrArg FieldVal.list (r2.trans (by rw [ex, ey])), w2⟩

theorem mergeFieldH_deref (h : Heap) (r : Rule) (k : Kind) (a b : RVal)
    (hc : compat r k = true) (hr : writesInput r = false) (ha : RefOK h k a) (hb : RefOK h k b) :
    derefVal (mergeFieldH h r a b).1 k (mergeFieldH h r a b).2 = mergeVal r (derefVal h k a) (derefVal h k b) ∧
    RefOK (mergeFieldH h r a b).1 k (mergeFieldH h r a b).2 := by
  rcases RefOK_cases ha with ⟨h1, h2, x, rfl⟩ | ⟨rfl, ra, rfl⟩ | ⟨rfl, sa, rfl⟩
  · rcases RefOK_cases hb with ⟨_, _, y, rfl⟩ | ⟨e, _⟩ | ⟨e, _⟩
    · rw [mergeFieldH_scalar]
      exact ⟨by simp only [derefVal_scalar], RefOK_scalar h h1 h2 _⟩
    · exact absurd e h1
    · exact absurd e h2
  · rcases RefOK_cases hb with ⟨e, _⟩ | ⟨_, rb, rfl⟩ | ⟨e, _⟩
    · exact absurd rfl e
    · cases r <;> cases hc <;> cases hr          -- the rules that fit a map and do not write into it
      · exact ⟨by simp [mergeFieldH, mergeVal], hb⟩   -- always
      · exact mergeFieldH_tagsFresh h ra rb ha hb
      · exact ⟨by simp [mergeFieldH, mergeVal], ha⟩   -- none
    · cases e
  · rcases RefOK_cases hb with ⟨_, e, _⟩ | ⟨e, _⟩ | ⟨_, sb, rfl⟩
    · exact absurd rfl e
    · cases e
    · cases r <;> cases hc <;> cases hr          -- the rules that fit a slice and do not write into it
      · exact ⟨by simp [mergeFieldH, mergeVal], hb⟩   -- always
      · exact mergeFieldH_concat h sa sb ha hb
      · exact ⟨by simp [mergeFieldH, mergeVal], ha⟩   -- none

theorem mergeHLoop_acc (t : List FieldSpec) (a b : RConfig) : ∀ (h : Heap) (acc : RConfig),
    mergeHLoop t h a b acc = ((mergeHLoop t h a b []).1, acc.reverse ++ (mergeHLoop t h a b []).2) := by
  induction t with
  | nil => intro h acc; simp [mergeHLoop]
  | cons fs rest ih =>
    intro h acc
    simp only [mergeHLoop]
    rw [ih _ (_ :: acc), ih _ [_]]
    simp

theorem rget_cons (f : String) (v : RVal) (c : RConfig) (g : String) :
    rget ((f, v) :: c) g = if (f == g) = true then v else rget c g := by
  simp only [rget, alookup_cons]
  split <;> rfl

theorem mergeH_cons (fs : FieldSpec) (rest : List FieldSpec) (h : Heap) (a b : RConfig) :
    mergeH (fs :: rest) h a b =
      ((mergeH rest (mergeFieldH h fs.rule (rget a fs.name) (rget b fs.name)).1 a b).1,
       (fs.name, (mergeFieldH h fs.rule (rget a fs.name) (rget b fs.name)).2) ::
         (mergeH rest (mergeFieldH h fs.rule (rget a fs.name) (rget b fs.name)).1 a b).2) := by
  simp only [mergeH, mergeHLoop]
  rw [mergeHLoop_acc]
  rfl

theorem keeps_mergeH (t : List FieldSpec) (ht : ∀ fs ∈ t, writesInput fs.rule = false) (h : Heap) (a b : RConfig) :
    Keeps h (mergeH t h a b).1 := by
  induction t generalizing h with
  | nil => exact Keeps.refl h
  | cons fs rest ih =>
    rw [mergeH_cons]
    exact (mergeFieldH_keeps h fs.rule _ _ (ht fs (by simp))).trans (ih (fun x hx => ht x (by simp [hx])) _)

def RefsOK (t : List FieldSpec) (h : Heap) (c : RConfig) : Prop := ∀ fs ∈ t, RefOK h fs.kind (rget c fs.name)

theorem RefsOK.keeps {t : List FieldSpec} {h h' : Heap} (hk : Keeps h h') {c : RConfig} (hc : RefsOK t h c) : RefsOK t h' c :=
  fun fs hfs => RefOK_keeps hk (hc fs hfs)

theorem deref_keeps (t : List FieldSpec) {h h' : Heap} (hk : Keeps h h') (c : RConfig)
    (hc : RefsOK t h c) : deref t h' c = deref t h c :=
  List.map_congr_left fun fs hfs => by rw [derefVal_keeps hk (hc fs hfs)]

section
variable {t : List FieldSpec} (hnd : (names t).Nodup) (hc : ∀ fs ∈ t, compat fs.rule fs.kind = true)
  (hw : ∀ fs ∈ t, writesInput fs.rule = false)
include hnd hc hw

/-- The first field is merged in `h`, the others in a heap that keeps `h`, over which the inputs are still well-formed
and denote the same. -/
theorem mergeH_field (h : Heap) (a b : RConfig) (ha : RefsOK t h a) (hb : RefsOK t h b) : ∀ fs ∈ t,
    RefOK (mergeH t h a b).1 fs.kind (rget (mergeH t h a b).2 fs.name) ∧
    derefVal (mergeH t h a b).1 fs.kind (rget (mergeH t h a b).2 fs.name) =
      mergeVal fs.rule (derefVal h fs.kind (rget a fs.name)) (derefVal h fs.kind (rget b fs.name)) := by
  induction t generalizing h with
  | nil => intro fs hfs; cases hfs
  | cons x rest ih =>
    intro fs hfs
    rw [names, List.map_cons, List.nodup_cons] at hnd
    have hw' : ∀ y ∈ rest, writesInput y.rule = false := fun y hy => hw y (by simp [hy])
    obtain ⟨hd, hr⟩ := mergeFieldH_deref h x.rule x.kind _ _ (hc x (by simp)) (hw x (by simp)) (ha x (by simp)) (hb x (by simp))
    have hk1 := mergeFieldH_keeps h x.rule (rget a x.name) (rget b x.name) (hw x (by simp))
    have hk2 := keeps_mergeH rest hw' (mergeFieldH h x.rule (rget a x.name) (rget b x.name)).1 a b
    rw [mergeH_cons]
    simp only [rget_cons]
    rcases List.mem_cons.mp hfs with rfl | hfs
    · simp only [beq_self_eq_true, if_true]
      exact ⟨RefOK_keeps hk2 hr, by rw [derefVal_keeps hk2 hr, hd]⟩
    · have hne : ¬ (x.name == fs.name) = true := fun e => hnd.1 (eq_of_beq e ▸ List.mem_map_of_mem hfs)
      simp only [hne]
      rw [← derefVal_keeps hk1 (ha fs (by simp [hfs])), ← derefVal_keeps hk1 (hb fs (by simp [hfs]))]
      exact ih hnd.2 (fun y hy => hc y (by simp [hy])) hw' _ (RefsOK.keeps hk1 fun y hy => ha y (by simp [hy]))
        (RefsOK.keeps hk1 fun y hy => hb y (by simp [hy])) fs hfs

theorem mergeH_deref (h : Heap) (a b : RConfig) (ha : RefsOK t h a) (hb : RefsOK t h b) :
    deref t (mergeH t h a b).1 (mergeH t h a b).2 = merge t (deref t h a) (deref t h b) := by
  apply List.map_congr_left
  intro fs hfs
  rw [(mergeH_field hnd hc hw h a b ha hb fs hfs).2, get_deref t hnd h a fs hfs, get_deref t hnd h b fs hfs]

theorem mergeH_refsOK (h : Heap) (a b : RConfig) (ha : RefsOK t h a) (hb : RefsOK t h b) :
    RefsOK t (mergeH t h a b).1 (mergeH t h a b).2 :=
  fun fs hfs => (mergeH_field hnd hc hw h a b ha hb fs hfs).1

theorem mergeH_assoc (h : Heap) (a b c : RConfig) (ha : RefsOK t h a) (hb : RefsOK t h b) (hcc : RefsOK t h c)
    (hwa : WT t (deref t h a)) (hwb : WT t (deref t h b)) (hwc : WT t (deref t h c)) :
    let m1 := mergeH t h a b
    let l := mergeH t m1.1 m1.2 c
    let m2 := mergeH t h b c
    let r := mergeH t m2.1 a m2.2
    ∀ fs ∈ t, valEq (get (deref t l.1 l.2) fs.name) (get (deref t r.1 r.2) fs.name) := by
  intro m1 l m2 r
  have k1 : Keeps h m1.1 := keeps_mergeH t hw h a b
  have k2 : Keeps h m2.1 := keeps_mergeH t hw h b c
  have e1 : deref t l.1 l.2 = merge t (merge t (deref t h a) (deref t h b)) (deref t h c) := by
    rw [mergeH_deref hnd hc hw m1.1 m1.2 c (mergeH_refsOK hnd hc hw h a b ha hb) (hcc.keeps k1),
      mergeH_deref hnd hc hw h a b ha hb, deref_keeps t k1 c hcc]
  have e2 : deref t r.1 r.2 = merge t (deref t h a) (merge t (deref t h b) (deref t h c)) := by
    rw [mergeH_deref hnd hc hw m2.1 a m2.2 (ha.keeps k2) (mergeH_refsOK hnd hc hw h b c hb hcc),
      mergeH_deref hnd hc hw h b c hb hcc, deref_keeps t k2 a ha]
  rw [e1, e2]
  exact merge_assoc hnd hc hwa hwb hwc

theorem foldH_deref (cs : List RConfig) :
    ∀ (h : Heap) (acc : RConfig), RefsOK t h acc → (∀ c ∈ cs, RefsOK t h c) →
    deref t (foldH t h acc cs).1 (foldH t h acc cs).2 = (cs.map (deref t h)).foldl (merge t) (deref t h acc) := by
  induction cs with
  | nil => intro h acc _ _; rfl
  | cons c cs ih =>
    intro h acc hacc hcs
    have hcc : RefsOK t h c := hcs c (by simp)
    have k : Keeps h (mergeH t h acc c).1 := keeps_mergeH t hw h acc c
    simp only [foldH, List.map_cons, List.foldl_cons]
    rw [ih _ _ (mergeH_refsOK hnd hc hw h acc c hacc hcc) (fun x hx => (hcs x (by simp [hx])).keeps k),
      mergeH_deref hnd hc hw h acc c hacc hcc]
    congr 1
    exact List.map_congr_left fun x hx => deref_keeps t k x (hcs x (by simp [hx]))

end

end SerfProofs.Config
