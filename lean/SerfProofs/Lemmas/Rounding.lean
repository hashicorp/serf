/-
An abstract rounding model for the distance estimate (C21): exact rational arithmetic followed by a rounding
function `fl : Rat → Rat` on every finite result.  `Rnd fl` is a `FloatLike` instance, so the SAME model code
(`distSeconds`, `distanceNs`, … of Model/Coord.lean) runs under it.  The only facts assumed about `fl` are the
standard model of floating-point arithmetic
    |fl x - x| ≤ u·|x|            (relative rounding error at most u, for doubles u = 2^-53)
    fl (-x) = -fl x               (rounding is odd: negation is exact)
and fl(10^9) = 10^9 (the constant is representable).

The error analysis is pure `Rat`: four rounded additions of five terms bounded by K, in any association, end within
32·u·K of the exact sum (counted in units, `Appr`).  Both shapes of DistanceTo, the current `m + (ha + hb)` then
`+ (ja + jb)` and the one before the repair 4a3f085, `((m + ha) + hb + ja) + jb`, are `if 0 < t then t else r` over
two such sums (`Computes`): away from the guard's threshold they are within 32·u·K of the exact formula, and always
in [0, 9K]; after scaling by 10^9, rounding and truncating, that is 1 ns.  At the threshold the former shape is not
symmetric (`fl0`).
-/
import SerfModel.Model.Coord
import SerfProofs.Lemmas.ERatLaws
namespace SerfModel.Rounding

theorem abs_le_iff (a b : Rat) : a.abs ≤ b ↔ -b ≤ a ∧ a ≤ b := by
  unfold Rat.abs
  split <;> grind

theorem add_add_add_comm (a b c d : Rat) : a + b + (c + d) = a + c + (b + d) := by
  rw [Rat.add_assoc, Rat.add_assoc, ← Rat.add_assoc b, ← Rat.add_assoc c, Rat.add_comm b]

theorem add_right_comm (a b c : Rat) : a + b + c = a + c + b := by
  rw [Rat.add_assoc, Rat.add_comm b, ← Rat.add_assoc]

/-- `a` is within `e` of `x` -/
structure Near (e x a : Rat) : Prop where
  lo : x ≤ a + e
  hi : a ≤ x + e

section near
variable {e e' x y a b c K : Rat}

theorem Near.symm (h : Near e x a) : Near e a x := ⟨h.hi, h.lo⟩

theorem Near.mono (h : Near e x a) (he : e ≤ e') : Near e' x a :=
  ⟨Rat.le_trans h.lo (Rat.add_le_add_left.2 he), Rat.le_trans h.hi (Rat.add_le_add_left.2 he)⟩

theorem Near.add (ha : Near e x a) (hb : Near e' y b) : Near (e + e') (x + y) (a + b) :=
  ⟨add_add_add_comm a e b e' ▸ Lean.Grind.OrderedAdd.add_le_add ha.lo hb.lo,
    add_add_add_comm x e y e' ▸ Lean.Grind.OrderedAdd.add_le_add ha.hi hb.hi⟩

theorem Near.trans (ha : Near e x a) (hb : Near e' a b) : Near (e + e') x b := by
  refine ⟨?_, ?_⟩
  · have := Rat.le_trans ha.lo (Rat.add_le_add_right.2 hb.lo)
    rwa [Rat.add_assoc, Rat.add_comm e'] at this
  · have := Rat.le_trans hb.hi (Rat.add_le_add_right.2 ha.hi)
    rwa [Rat.add_assoc] at this

theorem Near.mul_const (h : Near e x a) (hc : 0 ≤ c) : Near (e * c) (x * c) (a * c) :=
  ⟨Rat.add_mul a e c ▸ Rat.mul_le_mul_of_nonneg_right h.lo hc,
    Rat.add_mul x e c ▸ Rat.mul_le_mul_of_nonneg_right h.hi hc⟩

/-- `|x| ≤ K` is `Near K 0 x` -/
theorem near_zero_of_abs (h : -K ≤ x ∧ x ≤ K) : Near K 0 x :=
  ⟨Rat.neg_add_cancel K ▸ Rat.add_le_add_right.2 h.1, (Rat.zero_add K).symm ▸ h.2⟩

theorem near_zero_of_nonneg (h : 0 ≤ x ∧ x ≤ K) : Near K 0 x :=
  ⟨Rat.add_nonneg h.1 (Rat.le_trans h.1 h.2), (Rat.zero_add K).symm ▸ h.2⟩

theorem Near.floor (h : Near e x y) (he : e < 1) : x.floor - y.floor ≤ 1 ∧ y.floor - x.floor ≤ 1 := by
  have he' {c : Rat} : c + e ≤ c + 1 := Rat.add_le_add_left.2 (Rat.le_of_lt he)
  have h1 := Rat.floor_monotone (Rat.le_trans h.lo he')
  have h2 := Rat.floor_monotone (Rat.le_trans h.hi he')
  rw [Rat.floor_add_one] at h1 h2
  omega

/-- Farther than `e` from the threshold 0, the computed and the exact guard take the same branch. -/
theorem Near.guard {S R t r : Rat} (ht : Near e S t) (hr : Near e R r) (he : 0 ≤ e) (hmar : e < S ∨ S < -e) :
    Near e (if 0 < S then S else R) (if 0 < t then t else r) := by
  have h1 := ht.lo
  have h2 := ht.hi
  rcases hmar with h | h
  · have : 0 < S ∧ 0 < t := by grind
    rw [if_pos this.1, if_pos this.2]; exact ht
  · have : ¬ 0 < S ∧ ¬ 0 < t := by grind
    rw [if_neg this.1, if_neg this.2]; exact hr

end near

structure RoundingLaw (fl : Rat → Rat) (u : Rat) : Prop where
  u_nonneg : 0 ≤ u
  rel : ∀ x, (fl x - x).abs ≤ u * x.abs
  odd : ∀ x, fl (-x) = -fl x

variable {fl : Rat → Rat} {u x y a b K E : Rat}

theorem fl_close (h : RoundingLaw fl u) {B : Rat} (hx : Near B 0 x) : Near (u * B) x (fl x) := by
  obtain ⟨h1, h2⟩ := hx
  have hb : x.abs ≤ B := (abs_le_iff x B).2 (by grind)
  have := (abs_le_iff _ _).1 (Rat.le_trans (h.rel x) (Rat.mul_le_mul_of_nonneg_left hb h.u_nonneg))
  constructor <;> grind

theorem fl_zero (h : RoundingLaw fl u) : fl 0 = 0 := by
  have := fl_close h (x := 0) (B := 0) ⟨by decide +kernel, by decide +kernel⟩
  grind [this.lo, this.hi]

theorem fl_nonneg (h : RoundingLaw fl u) (hu : u ≤ 1) (hx : 0 ≤ x) : 0 ≤ fl x := by
  have h1 := (fl_close h (near_zero_of_nonneg ⟨hx, Rat.le_refl⟩)).lo
  have h2 : u * x ≤ x := by simpa using Rat.mul_le_mul_of_nonneg_right hu hx
  have : 0 + x ≤ fl x + x := by rw [Rat.zero_add]; exact Rat.le_trans h1 (Rat.add_le_add_left.2 h2)
  exact Rat.add_le_add_right.1 this

theorem RoundingLaw.u_le_one (h : RoundingLaw fl u) (hu : 8 * u ≤ 1) : u ≤ 1 := by
  have := Rat.mul_le_mul_of_nonneg_right (show (1 : Rat) ≤ 8 by decide +kernel) h.u_nonneg
  rw [Rat.one_mul] at this
  exact Rat.le_trans this hu

/-! ### accumulated rounding error, counted in units

All terms are bounded by `K`; `E` bounds the error of one rounding of a value within `8K`.  A value made of `n` terms
by `k` rounded additions is within `k·E` of the exact sum, as long as `n + k ≤ 8` keeps every intermediate result
within `8K`. -/

/-- what the sums need of `fl`, with the error unit a variable so that everything stays linear; `E = u·8K` below,
where `E ≤ K` is `8u ≤ 1` -/
structure ErrBound (fl : Rat → Rat) (K E : Rat) : Prop where
  K_nonneg : 0 ≤ K
  E_nonneg : 0 ≤ E
  E_le : E ≤ K
  close : ∀ {z}, Near (8 * K) 0 z → Near E z (fl z)
  nonneg : ∀ {z}, 0 ≤ z → 0 ≤ fl z

theorem RoundingLaw.errBound (h : RoundingLaw fl u) (hu : 8 * u ≤ 1) (hK : 0 ≤ K) : ErrBound fl K (u * (8 * K)) where
  K_nonneg := hK
  E_nonneg := Rat.mul_nonneg h.u_nonneg (Rat.mul_nonneg (by decide +kernel) hK)
  E_le := by
    have := Rat.mul_le_mul_of_nonneg_right hu hK
    rwa [Rat.mul_comm 8, Rat.mul_assoc, Rat.one_mul] at this
  close := fl_close h
  nonneg := fl_nonneg h (h.u_le_one hu)

structure Appr (K E : Rat) (n k : Nat) (x a : Rat) : Prop where
  mag : Near (n * K) 0 x
  err : Near (k * E) x a

section appr
variable {n n' k k' N : Nat}

theorem Appr.exact (hx : Near K 0 x) : Appr K E 1 0 x x :=
  ⟨(Rat.one_mul K).symm ▸ hx,
    (Rat.zero_mul E).symm ▸ ⟨(Rat.add_zero x).symm ▸ Rat.le_refl, (Rat.add_zero x).symm ▸ Rat.le_refl⟩⟩

theorem units_le (hE : ErrBound fl K E) (hN : n + k ≤ N) : n * K + k * E ≤ N * K := by
  refine Rat.le_trans (Rat.add_le_add_left.2 (Rat.mul_le_mul_of_nonneg_left hE.E_le Rat.natCast_nonneg)) ?_
  rw [← Rat.add_mul, ← Rat.natCast_add]
  exact Rat.mul_le_mul_of_nonneg_right (Rat.natCast_le_natCast.2 hN) hE.K_nonneg

/-- One rounded addition: terms add, roundings add plus this one. -/
theorem Appr.fl_add (hE : ErrBound fl K E) (ha : Appr K E n k x a) (hb : Appr K E n' k' y b)
    (hB : n + n' + (k + k') ≤ 8) : Appr K E (n + n') (k + k' + 1) (x + y) (fl (a + b)) := by
  have hm : Near (↑(n + n') * K) 0 (x + y) := by
    have := ha.mag.add hb.mag
    rwa [Rat.add_zero, ← Rat.add_mul, ← Rat.natCast_add] at this
  have he : Near (↑(k + k') * E) (x + y) (a + b) := by
    have := ha.err.add hb.err
    rwa [← Rat.add_mul, ← Rat.natCast_add] at this
  have := he.trans (hE.close ((hm.trans he).mono (units_le hE hB)))
  rw [← Rat.one_mul E, ← Rat.mul_assoc, Rat.mul_one, ← Rat.add_mul] at this
  exact ⟨hm, by rwa [Rat.natCast_add]⟩

theorem Appr.le (hE : ErrBound fl K E) (h : Appr K E n k x a) (hN : n + k ≤ N) : a ≤ N * K := by
  have := (h.mag.trans h.err).hi
  rw [Rat.zero_add] at this
  exact Rat.le_trans this (units_le hE hN)

end appr

/-- `fl(fl(fl(fl(m+p)+q)+r)+s)`: the adjusted distance in the left-to-right association DistanceTo had before the
repair 4a3f085 -/
def sum5 (fl : Rat → Rat) (m p q r s : Rat) : Rat := fl (fl (fl (fl (m + p) + q) + r) + s)

/-- `fl(fl(m+p)+q)`: rawDistanceTo in the same association -/
def sum3 (fl : Rat → Rat) (m p q : Rat) : Rat := fl (fl (m + p) + q)

/-- Both shapes of DistanceTo are `if 0 < t then t else r`, where `t` and `r` are computed values of the adjusted
distance `S` and of the raw distance `R`. -/
structure Computes (K E S R t r : Rat) : Prop where
  adj : Appr K E 5 4 S t
  raw : Appr K E 3 2 R r
  raw_nonneg : 0 ≤ r

section computes
variable {S R t r : Rat} (hE : ErrBound fl K E) (h : Computes K E S R t r)
include hE h

theorem Computes.range : 0 ≤ (if 0 < t then t else r) ∧ (if 0 < t then t else r) ≤ 9 * K := by
  split
  · exact ⟨Rat.le_of_lt ‹_›, h.adj.le hE (N := 9) (by decide)⟩
  · exact ⟨h.raw_nonneg, h.raw.le hE (N := 9) (by decide)⟩

theorem Computes.close (hmar : 4 * E < S ∨ S < -(4 * E)) :
    Near (4 * E) (if 0 < S then S else R) (if 0 < t then t else r) :=
  h.adj.err.guard
    (h.raw.err.mono (Rat.mul_le_mul_of_nonneg_right (Rat.natCast_le_natCast.2 (by decide)) hE.E_nonneg))
    (Rat.mul_nonneg (by decide +kernel) hE.E_nonneg) hmar

end computes

/-- realistic magnitudes: the Euclidean part and the heights lie in [0, K], the adjustments in [-K, K] -/
structure Magnitudes (K m ha hb ja jb : Rat) : Prop where
  m : 0 ≤ m ∧ m ≤ K
  ha : 0 ≤ ha ∧ ha ≤ K
  hb : 0 ≤ hb ∧ hb ≤ K
  ja : -K ≤ ja ∧ ja ≤ K
  jb : -K ≤ jb ∧ jb ≤ K

/-- the exact adjusted distance stays clear of the guard's threshold 0 by more than the accumulated rounding
error 32·u·K, so both directions take the same branch of `if adjustedDist > 0.0` -/
def Margin (u K m ha hb ja jb : Rat) : Prop :=
  4 * (u * (8 * K)) < m + ha + hb + ja + jb ∨ m + ha + hb + ja + jb < -(4 * (u * (8 * K)))

/-- the seconds value of DistanceTo in the association before the repair 4a3f085 -/
def distROld (fl : Rat → Rat) (m ha hb ja jb : Rat) : Rat :=
  if 0 < sum5 fl m ha hb ja jb then sum5 fl m ha hb ja jb else sum3 fl m ha hb

/-- the seconds value as DistanceTo computes it (coordinate.go:129-137, 145): heights summed first, adjustments
summed first -/
def distRNew (fl : Rat → Rat) (m ha hb ja jb : Rat) : Rat :=
  if 0 < fl (fl (m + fl (ha + hb)) + fl (ja + jb)) then fl (fl (m + fl (ha + hb)) + fl (ja + jb))
  else fl (m + fl (ha + hb))

/-- the documented formula in exact arithmetic, over the computed Euclidean part `m` -/
def exactFormula (m ha hb ja jb : Rat) : Rat :=
  if 0 < m + ha + hb + ja + jb then m + ha + hb + ja + jb else m + ha + hb

section shapes
variable {m ha hb ja jb : Rat} (hE : ErrBound fl K E) (hmag : Magnitudes K m ha hb ja jb)
include hmag

theorem Magnitudes.exact :
    Appr K E 1 0 m m ∧ Appr K E 1 0 ha ha ∧ Appr K E 1 0 hb hb ∧ Appr K E 1 0 ja ja ∧ Appr K E 1 0 jb jb :=
  ⟨.exact (near_zero_of_nonneg hmag.m), .exact (near_zero_of_nonneg hmag.ha), .exact (near_zero_of_nonneg hmag.hb),
    .exact (near_zero_of_abs hmag.ja), .exact (near_zero_of_abs hmag.jb)⟩

include hE

theorem computes_old :
    Computes K E (m + ha + hb + ja + jb) (m + ha + hb) (sum5 fl m ha hb ja jb) (sum3 fl m ha hb) := by
  obtain ⟨am, aha, ahb, aja, ajb⟩ := hmag.exact (E := E)
  have raw : Appr K E 3 2 (m + ha + hb) (sum3 fl m ha hb) := (am.fl_add hE aha (by decide)).fl_add hE ahb (by decide)
  exact ⟨(raw.fl_add hE aja (by decide)).fl_add hE ajb (by decide), raw,
    hE.nonneg (Rat.add_nonneg (hE.nonneg (Rat.add_nonneg hmag.m.1 hmag.ha.1)) hmag.hb.1)⟩

theorem computes_new :
    Computes K E (m + ha + hb + ja + jb) (m + ha + hb)
      (fl (fl (m + fl (ha + hb)) + fl (ja + jb))) (fl (m + fl (ha + hb))) := by
  obtain ⟨am, aha, ahb, aja, ajb⟩ := hmag.exact (E := E)
  have raw : Appr K E 3 2 (m + ha + hb) (fl (m + fl (ha + hb))) := by
    rw [Rat.add_assoc]
    exact am.fl_add hE (aha.fl_add hE ahb (by decide)) (by decide)
  refine ⟨?_, raw, hE.nonneg (Rat.add_nonneg hmag.m.1 (hE.nonneg (Rat.add_nonneg hmag.ha.1 hmag.hb.1)))⟩
  rw [Rat.add_assoc (m + ha + hb)]
  exact raw.fl_add hE (aja.fl_add hE ajb (by decide)) (by decide)

/-- the former shape with the two coordinates exchanged computes the same exact values -/
theorem computes_old_swap :
    Computes K E (m + ha + hb + ja + jb) (m + ha + hb) (sum5 fl m hb ha jb ja) (sum3 fl m hb ha) := by
  have := computes_old hE (⟨hmag.m, hmag.hb, hmag.ha, hmag.jb, hmag.ja⟩ : Magnitudes K m hb ha jb ja)
  rwa [add_right_comm m hb ha, add_right_comm (m + ha + hb) jb ja] at this

end shapes

/-- the nanosecond conversion `int64(fl(x · fl(10^9)))` -/
def nsOf (fl : Rat → Rat) (x : Rat) : Int := ERat.toInt64 (.fin (fl (x * fl 1000000000)))

/-- `int64` of a non-negative value below 2^63: truncation is the floor -/
theorem toInt64_fin_nonneg {q : Rat} (h0 : 0 ≤ q) (h1 : q < 9223372036854775807) :
    ERat.toInt64 (.fin q) = q.floor := by
  have hf : q.num.tdiv q.den = q.floor := by
    rw [Rat.floor_def, Int.tdiv_eq_ediv_of_nonneg (Rat.num_nonneg.2 h0)]
  have hlo : 0 ≤ q.floor := Rat.le_floor_iff.2 (by simpa using h0)
  have hhi : q.floor < 9223372036854775807 := Rat.floor_lt_iff.2 (by simpa using h1)
  simp only [ERat.toInt64, hf]
  rw [if_neg (by omega)]

section ns
variable {z d : Rat} (h : RoundingLaw fl u) (hu : 8 * u ≤ 1) (h9 : fl 1000000000 = 1000000000) (hK8 : K ≤ 100000000)
  (hx : 0 ≤ x ∧ x ≤ 9 * K)
include h hu h9 hK8 hx

/-- the rounded product is non-negative and below 2^63, so `int64` is the floor -/
theorem ns_floor :
    nsOf fl x = (fl (x * 1000000000)).floor ∧ 0 ≤ fl (x * 1000000000) ∧
      Near (u * (9 * K * 1000000000)) (x * 1000000000) (fl (x * 1000000000)) := by
  have h0 : (0 : Rat) ≤ 1000000000 := by decide +kernel
  have hX := Rat.mul_nonneg hx.1 h0
  have hB := Rat.mul_le_mul_of_nonneg_right hx.2 h0
  have hc := fl_close h (near_zero_of_nonneg ⟨hX, hB⟩)
  have nx := fl_nonneg h (h.u_le_one hu) hX
  have huB := Rat.mul_le_mul_of_nonneg_right (h.u_le_one hu) (Rat.le_trans hX hB)
  refine ⟨?_, nx, hc⟩
  rw [nsOf, h9]
  -- fl(x·10^9) ≤ (1 + u)·9K·10^9 ≤ 2·9·10^8·10^9 = 1.8·10^18 < 2^63 - 1 (`hc.hi`, `huB`, `hB`, `hK8`)
  exact toInt64_fin_nonneg nx (by grind [hc.hi])

theorem ns_nonneg : 0 ≤ nsOf fl x := by
  obtain ⟨hf, nx, -⟩ := ns_floor h hu h9 hK8 hx
  rw [hf]
  exact Rat.le_floor_iff.2 (by simpa using nx)

/-- Any `z` close to the exact product truncates to within 1 of the computed nanoseconds. -/
theorem ns_within_one (hz : Near d (x * 1000000000) z) (hd : u * (9 * K * 1000000000) + d < 1) :
    nsOf fl x - z.floor ≤ 1 ∧ z.floor - nsOf fl x ≤ 1 := by
  obtain ⟨hf, -, hc⟩ := ns_floor h hu h9 hK8 hx
  rw [hf]
  exact (hc.symm.trans hz).floor hd

/- Counted in units of u·K·10^9 ns, `ns_accurate` needs 9 (rounding the product) + 32 (the seconds value) = 41 of
them to stay below 1, `ns_close` 9 + 64 + 9 = 82; 100 is the round number above both.  For doubles (u = 2^-53) it
allows K up to 9·10^4 s. -/
variable (hsmall : 100 * (u * K * 1000000000) ≤ 1)
include hsmall

/-- a seconds value within 32·u·K of an exact one is within 1 of the truncated exact nanoseconds,
when 100·u·K·10^9 ≤ 1 -/
theorem ns_accurate (hxy : Near (4 * (u * (8 * K))) y x) :
    nsOf fl x - (y * 1000000000).floor ≤ 1 ∧ (y * 1000000000).floor - nsOf fl x ≤ 1 :=
  ns_within_one h hu h9 hK8 hx (hxy.symm.mul_const (by decide +kernel)) (by grind)

/-- two seconds values at most 64·u·K apart are at most 1 ns apart -/
theorem ns_close (hy : 0 ≤ y ∧ y ≤ 9 * K) (hxy : Near (4 * (u * (8 * K)) + 4 * (u * (8 * K))) x y) :
    nsOf fl x - nsOf fl y ≤ 1 ∧ nsOf fl y - nsOf fl x ≤ 1 := by
  obtain ⟨hf, -, hc⟩ := ns_floor h hu h9 hK8 hy
  rw [hf]
  exact ns_within_one h hu h9 hK8 hx ((hxy.mul_const (by decide +kernel)).trans hc) (by grind)

end ns

/-- values of the rounded arithmetic: extended rationals (the wrapper carries the rounding function in its type) -/
structure Rnd (fl : Rat → Rat) where
  v : ERat
  deriving DecidableEq

/-- round a finite value, keep nan / ±inf -/
def rd (fl : Rat → Rat) : ERat → ERat
  | .fin q => .fin (fl q)
  | x => x

instance instFloatLikeRnd (fl : Rat → Rat) : FloatLike (Rnd fl) where
  add x y := ⟨rd fl (ERat.add x.v y.v)⟩
  sub x y := ⟨rd fl (ERat.sub x.v y.v)⟩
  mul x y := ⟨rd fl (ERat.mul x.v y.v)⟩
  div x y := ⟨rd fl (ERat.div x.v y.v)⟩
  sqrt x := ⟨rd fl (ERat.sqrt x.v)⟩
  abs x := ⟨ERat.abs x.v⟩
  max x y := ⟨ERat.max x.v y.v⟩
  lt x y := ERat.lt x.v y.v
  le x y := ERat.le x.v y.v
  isNaN x := ERat.isNaN x.v
  isInf x := ERat.isInf x.v
  ofInt n := ⟨.fin (fl n)⟩
  toInt64 x := ERat.toInt64 x.v

/-- a finite value of the rounded arithmetic -/
def R (fl : Rat → Rat) (q : Rat) : Rnd fl := ⟨.fin q⟩

open SerfModel.Coord FloatLike

theorem add_R (a b : Rat) : FloatLike.add (R fl a) (R fl b) = R fl (fl (a + b)) := rfl

theorem gt_R (a b : Rat) : FloatLike.gt (R fl a) (R fl b) = decide (b < a) := by
  simp only [FloatLike.gt, FloatLike.lt, R, ERat.lt]

theorem mul_R (a b : Rat) : FloatLike.mul (R fl a) (R fl b) = R fl (fl (a * b)) := rfl

theorem zero_R (h : RoundingLaw fl u) : (FloatLike.zero : Rnd fl) = R fl 0 := by
  show (⟨.fin (fl ((0 : Int) : Rat))⟩ : Rnd fl) = ⟨.fin 0⟩
  rw [Rat.intCast_zero, fl_zero h]

theorem nanos_R : (nanos : Rnd fl) = R fl (fl 1000000000) := by
  show (⟨.fin (fl ((1000000000 : Int) : Rat))⟩ : Rnd fl) = ⟨.fin (fl 1000000000)⟩
  rw [show ((1000000000 : Int) : Rat) = 1000000000 by decide +kernel]

/-- `Rnd fl` has a commutative `+` and an exact negation whenever the rounding function is odd. -/
theorem commLaws_of_odd (hodd : ∀ x, fl (-x) = -fl x) : CommLaws (Rnd fl) where
  add_comm x y := congrArg (fun v => (⟨rd fl v⟩ : Rnd fl)) (CommLaws.add_comm x.v y.v)
  sub_sq_comm x y := by
    obtain ⟨x⟩ := x; obtain ⟨y⟩ := y
    show (⟨rd fl (ERat.mul (rd fl (ERat.sub x y)) (rd fl (ERat.sub x y)))⟩ : Rnd fl) =
      ⟨rd fl (ERat.mul (rd fl (ERat.sub y x)) (rd fl (ERat.sub y x)))⟩
    congr 2
    -- special values: both sides compute to the same value; finite values: negation is exact
    cases x <;> cases y <;> try rfl
    rename_i p q
    show ERat.fin (fl (p + -q) * fl (p + -q)) = ERat.fin (fl (q + -p) * fl (q + -p))
    have e : q + -p = -(p + -q) := by rw [Rat.neg_add, Rat.neg_neg, Rat.add_comm]
    rw [e, hodd, Rat.neg_mul, Rat.mul_neg, Rat.neg_neg]

/-- The model's `distanceNs` under the rounded arithmetic, when the Euclidean part is the finite value `m` and
heights and adjustments are finite: the nanoseconds of `distRNew`. -/
theorem distanceNs_R (h : RoundingLaw fl u) {a b : Coordinate (Rnd fl)}
    {m ha hb ja jb : Rat} (hm : magnitude (diffv a.vec b.vec) = R fl m)
    (hha : a.height = R fl ha) (hhb : b.height = R fl hb)
    (hja : a.adjustment = R fl ja) (hjb : b.adjustment = R fl jb) :
    distanceNs a b = nsOf fl (distRNew fl m ha hb ja jb) := by
  simp only [distanceNs, distSeconds, rawDistanceTo, hm, hha, hhb, hja, hjb, add_R, zero_R h, gt_R, nanos_R,
    distRNew, decide_eq_true_eq]
  split <;> rfl

/-- identity except at ±3/2, which it moves outwards by 10^-20 (relative error 6.7·10^-21): enough to separate the
two directions of the FORMER shape -/
def fl0 (x : Rat) : Rat :=
  if x = 3 / 2 then 3 / 2 + 1 / 100000000000000000000
  else if x = -(3 / 2) then -(3 / 2) - 1 / 100000000000000000000 else x

theorem fl0_law : RoundingLaw fl0 (1 / 10000000000000000) where
  u_nonneg := by decide +kernel
  rel x := by
    unfold fl0
    by_cases h1 : x = 3 / 2
    · subst h1; decide +kernel
    · by_cases h2 : x = -(3 / 2)
      · subst h2; decide +kernel
      · rw [if_neg h1, if_neg h2, Rat.sub_self, Rat.abs_zero]
        exact Rat.mul_nonneg (by decide +kernel) Rat.abs_nonneg
  odd x := by
    unfold fl0
    by_cases h1 : x = 3 / 2
    · subst h1; decide +kernel
    · by_cases h2 : x = -(3 / 2)
      · subst h2; decide +kernel
      · have h3 : ¬ -x = 3 / 2 := fun e => h2 (by grind)
        have h4 : ¬ -x = -(3 / 2) := fun e => h1 (by grind)
        rw [if_neg h1, if_neg h2, if_neg h3, if_neg h4]

end SerfModel.Rounding
