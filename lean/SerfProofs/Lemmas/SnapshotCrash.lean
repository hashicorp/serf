/-
Crash points of the snapshotter model (process-crash semantics: `FS.crashAt`).  The writer
emits two kinds of stretches: operations that only append to the snapshot file
(`mainAppendOnly`: at a crash the file holds what it held plus a byte prefix of what they
write), and compactions (`compact_crashAt`: the old file with a byte prefix of the flushed
buffer; or, between `remove(path)` and `rename(path.compact, path)`, no snapshot and the
complete compacted file beside it; or the compacted file in place).  Hence along every prefix
of every life's operation list there is a snapshot to recover from (`Safe`).
-/
import SerfProofs.Lemmas.SnapshotRuns
namespace SerfProofs.Snapshot
open SerfModel SerfModel.Snapshot

theorem crashAt_zero (fs : FS) (ops : List FsOp) (k : Nat) : FS.crashAt fs ops k 0 = fs.applyAll (ops.take k) := by
  unfold FS.crashAt
  split <;> rfl

theorem crashAt_nil (fs : FS) (k cut : Nat) : FS.crashAt fs [] k cut = fs := by
  simp [FS.crashAt, FS.applyAll]

theorem crashAt_cons_succ (fs : FS) (o : FsOp) (t : List FsOp) (k cut : Nat) :
    FS.crashAt fs (o :: t) (k + 1) cut = FS.crashAt (fs.apply o) t k cut := rfl

theorem crashAt_cons_zero (fs : FS) (o : FsOp) (t : List FsOp) (cut : Nat) :
    FS.crashAt fs (o :: t) 0 cut = fs ∨
      ∃ p d, o = .write p d ∧ FS.crashAt fs (o :: t) 0 cut = fs.apply (.write p (d.take cut)) := by
  cases o with
  | write p d =>
    by_cases hc : cut = 0
    · exact .inl (if_pos hc)
    · exact .inr ⟨p, d, rfl, if_neg hc⟩
  | _ => exact .inl rfl

theorem crashAt_of_length_le {fs : FS} {ops : List FsOp} {k cut : Nat} (h : ops.length ≤ k) :
    FS.crashAt fs ops k cut = fs.applyAll ops := by
  unfold FS.crashAt
  rw [List.take_of_length_le h, List.getElem?_eq_none h]

theorem crashAt_append_lt {a b : List FsOp} {fs : FS} {k cut : Nat} (h : k < a.length) :
    FS.crashAt fs (a ++ b) k cut = FS.crashAt fs a k cut := by
  induction a generalizing fs k with
  | nil => cases h
  | cons o t ih =>
    cases k with
    | zero => rfl
    | succ k => exact ih (Nat.lt_of_succ_lt_succ h)

theorem crashAt_append_ge {a b : List FsOp} {fs : FS} {k cut : Nat} (h : a.length ≤ k) :
    FS.crashAt fs (a ++ b) k cut = FS.crashAt (fs.applyAll a) b (k - a.length) cut := by
  induction a generalizing fs k with
  | nil => rfl
  | cons o t ih =>
    cases k with
    | zero => cases h
    | succ k =>
      rw [List.length_cons, Nat.add_sub_add_right]
      exact ih (Nat.le_of_succ_le_succ h)

theorem crashAt_tmpOnly_main (ops : List FsOp) (h : ∀ o ∈ ops, tmpOnly o = true) : ∀ (fs : FS) (k cut : Nat),
    (FS.crashAt fs ops k cut).main = fs.main := by
  induction ops with
  | nil => intro fs k cut; rw [crashAt_nil]
  | cons o t ih =>
    intro fs k cut
    cases k with
    | zero =>
      rcases crashAt_cons_zero fs o t cut with e | ⟨p, d, rfl, e⟩
      · rw [e]
      · rw [e]
        exact apply_tmpOnly_main fs _ (by have := h _ List.mem_cons_self; cases p <;> exact this)
    | succ k =>
      rw [crashAt_cons_succ, ih (fun x hx => h x (List.mem_cons_of_mem _ hx)), apply_tmpOnly_main fs o (h o List.mem_cons_self)]

theorem crashAt_mainAppendOnly (ops : List FsOp) (h : ∀ o ∈ ops, mainAppendOnly o = true) :
    ∀ (fs : FS) (d : Bytes) (k cut : Nat), fs.main = some d →
      ∃ w, w <+: ops.flatMap payload ∧ (cut = 0 → w = (ops.take k).flatMap payload) ∧
        (FS.crashAt fs ops k cut).main = some (d ++ w) := by
  induction ops with
  | nil =>
    intro fs d k cut hd
    exact ⟨[], List.nil_prefix, fun _ => by rw [List.take_nil]; rfl, by rw [crashAt_nil, List.append_nil]; exact hd⟩
  | cons o t ih =>
    intro fs d k cut hd
    cases k with
    | zero =>
      rcases crashAt_cons_zero fs o t cut with e | ⟨p, w, rfl, e⟩
      · exact ⟨[], List.nil_prefix, fun _ => rfl, by rw [e, List.append_nil]; exact hd⟩
      · have hp := h _ List.mem_cons_self
        cases p with
        | tmp => cases hp
        | main =>
          exact ⟨w.take cut, (List.take_prefix _ _).trans (List.prefix_append _ _), fun hc => by rw [hc]; rfl,
            by rw [e]; exact apply_mainAppendOnly fs (.write .main (w.take cut)) rfl d hd⟩
    | succ k =>
      rw [crashAt_cons_succ]
      have h1 := apply_mainAppendOnly fs o (h o List.mem_cons_self) d hd
      obtain ⟨w, hw, hw0, hx⟩ := ih (fun y hy => h y (List.mem_cons_of_mem _ hy)) (fs.apply o) _ k cut h1
      exact ⟨payload o ++ w, (List.prefix_append_right_inj _).mpr hw, fun hc => by rw [hw0 hc]; rfl, by rw [hx, List.append_assoc]⟩

theorem payload_take_flushOps (b : Bytes) (k : Nat) :
    ((flushOps .main b).take k).flatMap payload = [] ∨ ((flushOps .main b).take k).flatMap payload = b := by
  unfold flushOps
  split
  · exact .inl (by cases k <;> simp [payload])
  · match k with
    | 0 => exact .inl rfl
    | 1 => exact .inl rfl
    | k + 2 => exact .inr (by simp [payload])

/-- `w`: what the flush of the old buffer has written (between two operations, `cut = 0`: nothing or all of it) -/
theorem compact_crashAt (ord : Order) (s : Snap) (fs : FS) (d : Bytes) (hd : fs.main = some d) (k cut : Nat) :
    (∃ w, w <+: s.buf ∧ (cut = 0 → w = [] ∨ w = s.buf) ∧ (FS.crashAt fs (compact ord s).2 k cut).main = some (d ++ w)) ∨
    ((FS.crashAt fs (compact ord s).2 k cut).main = none ∧
      (FS.crashAt fs (compact ord s).2 k cut).tmp = some (compactLines ord s).flatten) ∨
    (FS.crashAt fs (compact ord s).2 k cut).main = some (compactLines ord s).flatten := by
  rw [compact_ops_eq]
  by_cases hk : k < (compactTmpOps ord s).length
  · -- the temp file is being written: the snapshot is untouched
    rw [crashAt_append_lt hk, crashAt_tmpOnly_main _ (compactTmpOps_tmpOnly ord s), hd]
    exact .inl ⟨[], List.nil_prefix, fun _ => .inl rfl, by rw [List.append_nil]⟩
  · rw [crashAt_append_ge (by omega)]
    obtain ⟨ht, hm⟩ := compactTmpOps_result ord s fs
    generalize fs.applyAll (compactTmpOps ord s) = g at ht hm ⊢
    rw [hd] at hm
    generalize k - (compactTmpOps ord s).length = j
    by_cases hj : j < (flushOps .main s.buf).length
    · -- the old buffer is being flushed
      rw [crashAt_append_lt hj]
      obtain ⟨w, hw, hw0, e⟩ := crashAt_mainAppendOnly _ (mainAppendOnly_flushOps s.buf) g d j cut hm
      rw [payload_flushOps] at hw
      exact .inl ⟨w, hw, fun hc => hw0 hc ▸ payload_take_flushOps s.buf j, e⟩
    · -- about to run close (0), remove (1), rename (2), reopen (3), or all done: no write, the cut plays no part
      rw [crashAt_append_ge (by omega), applyAll_flush .main g d s.buf hm]
      have hx : ∃ w, w <+: s.buf ∧ (cut = 0 → w = [] ∨ w = s.buf) ∧ some (d ++ s.buf) = some (d ++ w) :=
        ⟨s.buf, List.prefix_rfl, fun _ => .inr rfl, rfl⟩
      match j - (flushOps .main s.buf).length with
      | 0 => exact .inl hx
      | 1 => exact .inl hx
      | 2 => exact .inr (.inl ⟨rfl, ht⟩)
      | 3 => exact .inr (.inr ht)
      | n + 4 =>
        rw [crashAt_of_length_le (Nat.le_add_left 4 n)]
        simp only [FS.applyAll, List.foldl, FS.apply, FS.get, FS.set, ht]
        exact .inr (.inr trivial)

/-- the snapshot file exists, or we are in the window where `path.compact` holds the state -/
def CrashOK (fs : FS) : Prop := fs.main.isSome = true ∨ (fs.main = none ∧ fs.tmp.isSome = true)

/-- starting from a directory where the snapshot file exists, every prefix of `ops` leaves
a `CrashOK` directory and the whole list one where the snapshot file exists again -/
def Safe (ops : List FsOp) : Prop :=
  ∀ fs : FS, fs.main.isSome = true →
    (∀ k, CrashOK (fs.applyAll (ops.take k))) ∧ (fs.applyAll ops).main.isSome = true

theorem Safe.nil : Safe [] := fun fs h => ⟨fun k => by simp [FS.applyAll, CrashOK, h], h⟩

theorem Safe.append {a b : List FsOp} (ha : Safe a) (hb : Safe b) : Safe (a ++ b) := by
  intro fs h
  obtain ⟨ha1, ha2⟩ := ha fs h
  obtain ⟨hb1, hb2⟩ := hb _ ha2
  refine ⟨fun k => ?_, by rw [applyAll_append]; exact hb2⟩
  rw [List.take_append]
  by_cases hk : k ≤ a.length
  · have : k - a.length = 0 := by omega
    rw [this, List.take_zero, List.append_nil]
    exact ha1 k
  · rw [List.take_of_length_le (by omega), applyAll_append]
    exact hb1 _

theorem Safe.of_mainAppendOnly (ops : List FsOp) (h : ∀ o ∈ ops, mainAppendOnly o = true) : Safe ops := by
  intro fs hfs
  obtain ⟨d, hd⟩ := Option.isSome_iff_exists.mp hfs
  refine ⟨fun k => .inl ?_, ?_⟩
  · rw [applyAll_mainAppendOnly _ (fun o ho => h o (List.mem_of_mem_take ho)) fs d hd]; rfl
  · rw [applyAll_mainAppendOnly _ h fs d hd]; rfl

theorem safe_compact (ord : Order) (s : Snap) : Safe (compact ord s).2 := by
  intro fs h
  obtain ⟨d, hd⟩ := Option.isSome_iff_exists.mp h
  refine ⟨fun k => ?_, by rw [compact_result_fs]; rfl⟩
  rw [← crashAt_zero]
  rcases compact_crashAt ord s fs d hd k 0 with ⟨w, _, _, h⟩ | ⟨h1, h2⟩ | h
  · exact .inl (by rw [h]; rfl)
  · exact .inr ⟨h1, by rw [h2]; rfl⟩
  · exact .inl (by rw [h]; rfl)

theorem safe_appendLine (ord : Order) (s : Snap) (l : Bytes) : Safe (appendLine ord s l).2 :=
  have hb := Safe.of_mainAppendOnly _ (appendBytes_ops s l).1
  ite_prop (fun r : Snap × List FsOp => Safe r.2) (fun _ => Safe.append hb (safe_compact ord _)) fun _ => hb

theorem safe_recordAll (ord : Order) (lns : List Line) : ∀ s, Safe (recordAll ord s lns).2 := by
  induction lns with
  | nil => intro s; exact Safe.nil
  | cons ln lns ih => intro s; exact Safe.append (safe_appendLine ord _ _) (ih _)

theorem safe_flushed {r : Snap × List FsOp} {tail : List FsOp} (h : Safe r.2) (htail : ∀ o ∈ tail, mainAppendOnly o = true) :
    Safe (flushed r tail).2 :=
  Safe.append (Safe.append h (Safe.of_mainAppendOnly _ (mainAppendOnly_flushOps _))) (Safe.of_mainAppendOnly _ htail)

theorem safe_step (ord : Order) (s : Snap) (ev : Ev) : Safe (step ord s ev).2 := by
  rw [step_eq]
  split
  · exact safe_flushed (safe_appendLine ord _ _) (by decide)
  · exact Safe.nil
  · exact safe_compact ord s
  · exact safe_recordAll ord _ s

theorem safe_run (ord : Order) (evs : List Ev) : ∀ s, Safe (run ord s evs).2 := by
  induction evs with
  | nil => intro s; exact Safe.nil
  | cons e es ih => intro s; rw [run_cons]; exact Safe.append (safe_step ord s e) (ih _)

theorem safe_shutdown (ord : Order) (s : Snap) (clk : Nat) : Safe (shutdown ord s clk).2 := by
  rw [shutdown_eq]
  exact safe_flushed (safe_recordAll ord _ s) (by decide)

/-- after every life on a fresh directory the snapshot file is there: no invariant is needed -/
theorem life_fresh_main (ord : Order) (rj : Bool) (mc : Nat) (evs : List Ev) (clk : Nat) :
    ∃ d, (FS.applyAll {} (life ord rj mc {} evs clk).2).main = some d := by
  rw [life_fresh_fs]
  exact Option.isSome_iff_exists.mp (safe_shutdown ord _ clk _ (safe_run ord evs _ _ rfl).2).2

end SerfProofs.Snapshot
