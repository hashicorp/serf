/-
GatedWriter (C29) under the exclusive-lock skeleton: every step that does anything completes one operation of one
thread (`Inv.advance`).
-/
import SerfModel.Model.LogWriters
import SerfProofs.Lemmas.Ite
namespace SerfProofs.GatedWriter
open SerfModel SerfModel.LogWriters

/-- The skeleton the theorems need: both methods run entirely under the exclusive lock. -/
def Good (sk : Skeleton) : Prop := sk.write.wholeBodyExclusive = true ∧ sk.flush.wholeBodyExclusive = true

/-- Writes of a program, as lines of thread `t`. -/
def writesOf (t : Nat) (ops : List Op) : List Line :=
  ops.filterMap fun o => match o with | .write x => some ⟨t, x⟩ | .flush => none

structure Inv (progs : List (List Op)) (s : Sys) : Prop where
  gate : (s.flush = false → s.out = [] ∧ s.buf = s.hist) ∧ (s.flush = true → s.buf = [] ∧ s.out = s.hist)
  idle : ∀ (t : Nat) (th : Thr), s.threads[t]? = some th → th.mid = Mid.idle
  perThread : ∀ (t : Nat) (th : Thr), s.threads[t]? = some th →
    s.hist.filter (fun l => l.tid == t) = th.done ∧ th.done ++ writesOf t th.todo = writesOf t (progs.getD t [])

theorem Inv.init (progs : List (List Op)) : Inv progs (Sys.init progs) := by
  have hth : ∀ t (th : Thr), (Sys.init progs).threads[t]? = some th → th = { todo := progs.getD t [] } := fun t th h => by
    simp only [Sys.init, List.getElem?_map] at h
    cases hp : progs[t]? <;> simp [hp] at h
    simp [← h, List.getD, hp]
  exact ⟨⟨fun _ => ⟨rfl, rfl⟩, nofun⟩, fun t th h => hth t th h ▸ rfl, fun t th h => hth t th h ▸ ⟨rfl, rfl⟩⟩

theorem Inv.exactly_once {progs : List (List Op)} {s : Sys} (h : Inv progs s) : s.out ++ s.buf = s.hist := by
  cases hf : s.flush
  · rw [(h.gate.1 hf).1, (h.gate.1 hf).2]; rfl
  · rw [(h.gate.2 hf).1, (h.gate.2 hf).2]; exact List.append_nil _

theorem writesOf_cons (t : Nat) (op : Op) (rest : List Op) : writesOf t (op :: rest) = writesOf t [op] ++ writesOf t rest :=
  List.filterMap_append (l := [op])

theorem filter_writesOf (t j : Nat) (ops : List Op) :
    (writesOf t ops).filter (fun l => l.tid == j) = if t = j then writesOf t ops else [] := by
  have tid : ∀ l ∈ writesOf t ops, l.tid = t := fun l hl => by
    obtain ⟨o, _, ho⟩ := List.mem_filterMap.mp hl
    cases o with
    | write x => exact Option.some.inj ho ▸ rfl
    | flush => cases ho
  split
  next e => exact List.filter_eq_self.mpr fun l hl => by rw [tid l hl, e]; exact beq_self_eq_true j
  next e => exact List.filter_eq_nil_iff.mpr fun l hl => by rw [tid l hl]; exact fun hb => e (eq_of_beq hb)

theorem Inv.advance {progs : List (List Op)} {s s' : Sys} (h : Inv progs s) {t : Nat} {th : Thr} (hth : s.threads[t]? = some th)
    {op : Op} {rest : List Op} (htodo : th.todo = op :: rest)
    (hhist : s'.hist = s.hist ++ writesOf t [op])
    (hthr : s'.threads = s.threads.set t { mid := .idle, todo := rest, done := th.done ++ writesOf t [op] })
    (hgate : (s'.flush = false → s'.out = [] ∧ s'.buf = s'.hist) ∧ (s'.flush = true → s'.buf = [] ∧ s'.out = s'.hist)) :
    Inv progs s' := by
  have hlt : t < s.threads.length := (List.getElem?_eq_some_iff.mp hth).1
  -- the four goals, in order: (idle, t = j), (idle, t ≠ j), (perThread, t = j), (perThread, t ≠ j)
  refine ⟨hgate, fun j thj hj => ?_, fun j thj hj => ?_⟩ <;> rw [hthr] at hj <;> by_cases e : t = j
  · rw [← e, List.getElem?_set_self hlt] at hj
    exact Option.some.inj hj ▸ rfl
  · rw [List.getElem?_set_ne e] at hj
    exact h.idle j thj hj
  · rw [← e, List.getElem?_set_self hlt] at hj
    obtain ⟨p1, p2⟩ := h.perThread t th hth
    rw [← e, hhist, List.filter_append, ← Option.some.inj hj, p1, ← p2, htodo, filter_writesOf, if_pos rfl,
      writesOf_cons t op rest]
    exact ⟨rfl, List.append_assoc _ _ _⟩
  · rw [List.getElem?_set_ne e] at hj
    rw [hhist, List.filter_append, filter_writesOf, if_neg e, List.append_nil]
    exact h.perThread j thj hj

theorem step_inv (sk : Skeleton) (hg : Good sk) (progs : List (List Op)) (s : Sys) (t : Nat)
    (h : Inv progs s) : Inv progs (step sk s t) := by
  unfold step
  cases hth : s.threads[t]? with
  | none => exact h
  | some th =>
    have hidle := h.idle t th hth
    obtain ⟨mid, todo, done⟩ := th
    subst hidle
    cases htodo : todo with
    | nil => exact h
    | cons op rest =>
      cases op with
      | write text =>
        simp only [hg.1, ↓reduceIte]
        refine ite_prop _ (fun hf => ?_) fun hf => ?_
        · refine h.advance hth htodo rfl rfl ⟨(fun hf' => nomatch hf.symm.trans hf'), fun _ => ?_⟩
          exact ⟨(h.gate.2 hf).1, congrArg (· ++ _) (h.gate.2 hf).2⟩
        · have hf' := Bool.eq_false_iff.mpr hf
          refine h.advance hth htodo rfl rfl ⟨fun _ => ?_, fun hf'' => absurd hf'' hf⟩
          exact ⟨(h.gate.1 hf').1, congrArg (· ++ _) (h.gate.1 hf').2⟩
      | flush =>
        simp only [hg.2, ↓reduceIte]
        exact h.advance hth htodo (List.append_nil _).symm (by rw [show writesOf t [.flush] = [] from rfl, List.append_nil])
          ⟨(fun hf => nomatch hf), fun _ => ⟨rfl, h.exactly_once⟩⟩

theorem run_inv (sk : Skeleton) (hg : Good sk) {progs : List (List Op)} (sched : List Nat) {s : Sys}
    (h : Inv progs s) : Inv progs (run sk s sched) :=
  List.foldlRecOn sched (step sk) h fun s h t _ => step_inv sk hg progs s t h

end SerfProofs.GatedWriter
