-- GENERATED by /verif/mkall
import SerfProofs.Lemmas.AgentTags
import SerfProofs.Lemmas.Assoc
import SerfProofs.Lemmas.BufHandlerIR
import SerfProofs.Lemmas.Cluster
import SerfProofs.Lemmas.ClusterSync
import SerfProofs.Lemmas.CoalesceLoop
import SerfProofs.Lemmas.Codec
import SerfProofs.Lemmas.Config
import SerfProofs.Lemmas.ConfigHeap
import SerfProofs.Lemmas.Conflict
import SerfProofs.Lemmas.Coord
import SerfProofs.Lemmas.ERatLaws
import SerfProofs.Lemmas.EventBuf
import SerfProofs.Lemmas.EventScript
import SerfProofs.Lemmas.FloatLaws
import SerfProofs.Lemmas.GatedWriter
import SerfProofs.Lemmas.IpcGate
import SerfProofs.Lemmas.IpcStreams
import SerfProofs.Lemmas.Ite
import SerfProofs.Lemmas.KeyAgg
import SerfProofs.Lemmas.Keyring
import SerfProofs.Lemmas.Lamport
import SerfProofs.Lemmas.LogWriter
import SerfProofs.Lemmas.MemberCoalesce
import SerfProofs.Lemmas.Msgpack
import SerfProofs.Lemmas.NodeBook
import SerfProofs.Lemmas.NodeGossip
import SerfProofs.Lemmas.NodeLists
import SerfProofs.Lemmas.NodeObserver
import SerfProofs.Lemmas.NodeSelf
import SerfProofs.Lemmas.NodeShapes
import SerfProofs.Lemmas.NodeSteps
import SerfProofs.Lemmas.Pipeline
import SerfProofs.Lemmas.PipelineDrain
import SerfProofs.Lemmas.PipelineLast
import SerfProofs.Lemmas.QueryRoute
import SerfProofs.Lemmas.RegexSem
import SerfProofs.Lemmas.Relay
import SerfProofs.Lemmas.Rounding
import SerfProofs.Lemmas.SnapshotCrash
import SerfProofs.Lemmas.SnapshotCrashSafe
import SerfProofs.Lemmas.SnapshotFault
import SerfProofs.Lemmas.SnapshotLines
import SerfProofs.Lemmas.SnapshotLog
import SerfProofs.Lemmas.SnapshotPieces
import SerfProofs.Lemmas.SnapshotResume
import SerfProofs.Lemmas.SnapshotRuns
import SerfProofs.Lemmas.SnapshotSteps
import SerfProofs.Lemmas.SnapshotWriter
import SerfProofs.Lemmas.StrCode
import SerfProofs.Lemmas.UserCoalesce
import SerfProofs.Props.C01
import SerfProofs.Props.C02
import SerfProofs.Props.C03
import SerfProofs.Props.C04
import SerfProofs.Props.C05
import SerfProofs.Props.C06
import SerfProofs.Props.C07
import SerfProofs.Props.C08
import SerfProofs.Props.C09
import SerfProofs.Props.C09Sites
import SerfProofs.Props.C10
import SerfProofs.Props.C11
import SerfProofs.Props.C12
import SerfProofs.Props.C13
import SerfProofs.Props.C14
import SerfProofs.Props.C15
import SerfProofs.Props.C16
import SerfProofs.Props.C17
import SerfProofs.Props.C18
import SerfProofs.Props.C19
import SerfProofs.Props.C20
import SerfProofs.Props.C21
import SerfProofs.Props.C22
import SerfProofs.Props.C23
import SerfProofs.Props.C24
import SerfProofs.Props.C25
import SerfProofs.Props.C26
import SerfProofs.Props.C27
import SerfProofs.Props.C28
import SerfProofs.Props.C29
import SerfProofs.Props.C30
import SerfProofs.Props.C31
import SerfProofs.Props.C32
import SerfProofs.Props.C33
import SerfProofs.Props.C34
import SerfProofs.Props.C35
import SerfProofs.Props.C36
